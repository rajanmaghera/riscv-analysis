/-
  Rva.Model.Render — model of `PrettyPrint::format_region` (riscv_analysis_cli/src/printer.rs):
  the three-line excerpt printed under a diagnostic.
-/
import Rva.Model.Basic
namespace Rva

/-- `char::is_whitespace` on the characters that reach the printer (ASCII, U+0085, U+00A0, U+3000) -/
def isWsChar (c : Char) : Bool :=
  c == ' ' || c == '\t' || c == '\n' || c == '\r' || c == '\x0b' || c == '\x0c' || c == ' ' ||
  c == '\u0085' || c == '　'

/-- what the marker line keeps from the source line: the tab (for the spacing), nothing else -/
def isBlank (c : Char) : Bool := c == '\t'

/-- the marker line under the excerpt: `offset` cells of blank, then one marker per column -/
def formatMarker (text : List Char) (firstNonWs start stop : Nat) : List Char :=
  let offset := start - firstNonWs
  let base := ((text.drop firstNonWs).take offset).map fun c => if isBlank c then c else ' '
  base ++ List.replicate (offset - base.length) ' ' ++ List.replicate (stop + 1 - start) '^'

/-- what is cut from the left of the excerpt: the characters the lexer takes for blank space, nothing
    else (any other character can be the one the diagnostic is about) -/
def isLeadBlank (c : Char) : Bool := c == ' ' || c == '\t' || c == '\r'

def firstNonWs (text : List Char) : Nat :=
  match text.findIdx? (fun c => !isLeadBlank c) with
  | some i => i
  | none => 0

def trimWs (text : List Char) : List Char :=
  ((text.dropWhile isLeadBlank).reverse.dropWhile isWsChar).reverse

/-- the three lines of `format_region(text, line, start, end)` (zero-based `line`) -/
def formatRegion (text : List Char) (line start stop : Nat) : List (List Char) :=
  let num := (toString (line + 1)).toList
  let spc := List.replicate (num.length + 1) ' '
  [spc ++ " |".toList,
   " ".toList ++ num ++ " | ".toList ++ trimWs text,
   spc ++ " | ".toList ++ formatMarker text (firstNonWs text) start stop]

end Rva
