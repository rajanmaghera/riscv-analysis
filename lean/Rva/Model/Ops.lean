/-
  Rva.Model.Ops — model of `MathOp::operate` (riscv_analysis/src/cfg/ops.rs), written to mirror
  the Rust expression of every arm: `wrapping_*` on i32 is arithmetic in `BitVec 32`, the `mulh*`
  arms widen to 64 bits with the signedness the Rust casts give, `wrapping_shl/shr` mask the
  amount to 5 bits, `wrapping_div/rem` are `sdiv/srem`.
-/
import Rva.Model.Basic
namespace Rva

/-- `y as u32` masked to the low five bits, as `wrapping_shl/shr` do. -/
def shamt (y : Word) : Nat := y.toNat % 32

def boolWord (b : Bool) : Word := if b then 1#32 else 0#32

/-- The model of `MathOp::operate(x, y)`. Total: after the repair no arm can panic
    (`mulh_product_exact`, `mulhsu_product_exact` in `Proofs/C08` show the 64-bit products cannot overflow). -/
def operate : MathOp → Word → Word → Word
  | .add, x, y => x + y
  | .and, x, y => x &&& y
  | .or, x, y => x ||| y
  | .sll, x, y => x <<< shamt y
  | .slt, x, y => boolWord (x.slt y)
  | .sltu, x, y => boolWord (x.ult y)
  | .sra, x, y => x.sshiftRight (shamt y)
  | .srl, x, y => x >>> shamt y
  | .sub, x, y => x - y
  | .xor, x, y => x ^^^ y
  | .mul, x, y => x * y
  | .mulh, x, y => (((x.signExtend 64) * (y.signExtend 64)).sshiftRight 32).setWidth 32
  | .mulhsu, x, y => (((x.signExtend 64) * (y.setWidth 64)).sshiftRight 32).setWidth 32
  | .mulhu, x, y => (((x.setWidth 64) * (y.setWidth 64)) >>> 32).setWidth 32
  | .div, x, y => if y = 0#32 then BitVec.allOnes 32 else x.sdiv y
  | .divu, x, y => if y = 0#32 then BitVec.allOnes 32 else x.udiv y
  | .rem, x, y => if y = 0#32 then x else x.srem y
  | .remu, x, y => if y = 0#32 then x else x.umod y

end Rva
