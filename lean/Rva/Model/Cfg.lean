/-
  Rva.Model.Cfg — the control-flow graph and the graph passes:
  `Cfg::new_with_predefined_call_names` (cfg/graph.rs), `NodeDirectionPass` (gen/directions.rs),
  `EliminateDeadCodeDirectionsPass` (gen/dead_code.rs), `EcallTerminationPass`
  (gen/ecall_terminate.rs), `FunctionMarkupPass` (gen/function_annotations.rs).

  `Rc<CfgNode>` identities are indices into the node array; `HashSet<Rc<CfgNode>>` edge sets are
  duplicate-free index lists kept in ascending order.
-/
import Rva.Model.Node
namespace Rva

/-! ### register sets (`RegisterSet`: u32 bit mask) -/

abbrev RegSet := BitVec 32

namespace RegSet
def empty : RegSet := 0#32
def single (r : Reg) : RegSet := 1#32 <<< r
def mem (s : RegSet) (r : Reg) : Bool := s.getLsbD r
def ofList (l : List Reg) : RegSet := l.foldl (fun s r => s ||| single r) empty
def toList (s : RegSet) : List Reg := (List.range 32).filter (mem s)
def diff (a b : RegSet) : RegSet := a &&& ~~~b
def str (s : RegSet) : String := "[" ++ ",".intercalate ((toList s).map toString) ++ "]"
end RegSet

def programArgsSet : RegSet := RegSet.ofList Gen.programArgsSet
def temporarySet : RegSet := RegSet.ofList Gen.temporarySet
def argumentSet : RegSet := RegSet.ofList Gen.argumentSet
def returnSet : RegSet := RegSet.ofList Gen.returnSet
def allWritableSet : RegSet := RegSet.ofList Gen.allWritableSet
def savedSet : RegSet := RegSet.ofList Gen.savedSet
def spRaSet : RegSet := RegSet.ofList Gen.spRaSet
def returnAddrSet : RegSet := RegSet.ofList Gen.returnAddrSet
def callerSavedSet : RegSet := RegSet.ofList Gen.callerSavedSet
def constZeroSet : RegSet := RegSet.ofList Gen.constZeroSet
def calleeSavedSet : RegSet := RegSet.ofList Gen.calleeSavedSet
def ecallAlwaysArgumentSet : RegSet := RegSet.ofList Gen.ecallAlwaysArgumentSet

/-! ### abstract values (`AvailableValue`, `MemoryLocation`) -/

inductive AVal where
  | const (c : Word)
  | addr (l : String)
  | mem (l : String) (o : Word)
  | rs (r : Reg) (o : Word)
  | ors (r : Reg) (o : Word)
  | mr (r : Reg) (o : Word)
  | omr (r : Reg) (o : Word)
  | vcsr (c : Nat)
  | mcsr (c : Nat) (o : Word)
  deriving DecidableEq, Repr, Inhabited

inductive MemLoc where
  | stack (o : Word)
  | csr (c : Nat)
  | csro (c : Nat) (o : Word)
  deriving DecidableEq, Repr, Inhabited

def AVal.str : AVal → String
  | .const c => s!"c:{c.toInt}"
  | .addr l => s!"a:{hexOfString l}"
  | .mem l o => s!"m:{hexOfString l}:{o.toInt}"
  | .rs r o => s!"rs:{r}:{o.toInt}"
  | .ors r o => s!"ors:{r}:{o.toInt}"
  | .mr r o => s!"mr:{r}:{o.toInt}"
  | .omr r o => s!"omr:{r}:{o.toInt}"
  | .vcsr c => s!"vc:{c}"
  | .mcsr c o => s!"mc:{c}:{o.toInt}"

def MemLoc.str : MemLoc → String
  | .stack o => s!"so:{o.toInt}"
  | .csr c => s!"csr:{c}"
  | .csro c o => s!"csro:{c}:{o.toInt}"

/-- derived `Ord` of `MemoryLocation`: variant order, then fields (i32 signed, u32). -/
def MemLoc.lt : MemLoc → MemLoc → Bool
  | .stack a, .stack b => a.slt b
  | .stack _, _ => true
  | .csr _, .stack _ => false
  | .csr a, .csr b => a < b
  | .csr _, .csro .. => true
  | .csro a x, .csro b y => a < b || (a == b && x.slt y)
  | .csro .., _ => false

/-- `AvailableValueMap<K>` as an association list (at most one entry per key). -/
abbrev AMap (κ : Type) := List (κ × AVal)

namespace AMap
variable {κ : Type} [DecidableEq κ]
def get (m : AMap κ) (k : κ) : Option AVal := (m.find? (·.1 == k)).map (·.2)
def erase (m : AMap κ) (k : κ) : AMap κ := m.filter (·.1 != k)
def insert (m : AMap κ) (k : κ) (v : AVal) : AMap κ := (k, v) :: erase m k
/-- `extend`: entries of `o` overwrite. -/
def extend (m o : AMap κ) : AMap κ := o.foldl (fun acc p => insert acc p.1 p.2) m
/-- `&=`: keep the entries on which both agree. -/
def meet (m o : AMap κ) : AMap κ := m.filter fun p => get o p.1 == some p.2
/-- equality as finite maps -/
def sameAs (m o : AMap κ) : Bool :=
  m.all (fun p => get o p.1 == some p.2) && o.all (fun p => get m p.1 == some p.2)
end AMap

def insertSorted {α} (lt : α → α → Bool) (x : α) : List α → List α
  | [] => [x]
  | y :: ys => if lt x y then x :: y :: ys else y :: insertSorted lt x ys

def sortBy {α} (lt : α → α → Bool) (l : List α) : List α := l.foldr (insertSorted lt) []

def regMapStr (m : AMap Reg) : String :=
  let s := sortBy (fun a b => a.1 < b.1) m
  "{" ++ ",".intercalate (s.map fun p => s!"{p.1}={p.2.str}") ++ "}"

def memMapStr (m : AMap MemLoc) : String :=
  let s := sortBy (fun a b => MemLoc.lt a.1 b.1) m
  "{" ++ ",".intercalate (s.map fun p => s!"{p.1.str}={p.2.str}") ++ "}"

/-! ### the graph -/

structure CNode where
  node : Node
  labels : List (W String)
  isText : Bool
  nexts : List Nat := []
  prevs : List Nat := []
  funcs : List Nat := []        -- entry indices of the functions this node belongs to
  regIn : AMap Reg := []
  regOut : AMap Reg := []
  memIn : AMap MemLoc := []
  memOut : AMap MemLoc := []
  liveIn : RegSet := 0#32
  liveOut : RegSet := 0#32
  uDef : RegSet := 0#32
  deriving Repr, Inhabited

structure Func where
  entry : Nat
  exit : Nat
  nodes : List Nat
  defs : RegSet
  deriving Repr, Inhabited

structure Cfg where
  nodes : Array CNode
  funcs : List Func := []                 -- one per function entry, in node order
  labelFunc : List (String × Nat) := []   -- `label_function_map`: label ↦ entry index
  deriving Repr, Inhabited

inductive CfgErr where
  | labelsNotDefined (labels : List (W String))
  | duplicateLabel (l : W String)
  | unexpectedError
  deriving Repr, Inhabited

def insNat (x : Nat) : List Nat → List Nat
  | [] => [x]
  | y :: ys => if x < y then x :: y :: ys else if x == y then y :: ys else y :: insNat x ys

def Cfg.modify (g : Cfg) (i : Nat) (f : CNode → CNode) : Cfg :=
  { g with nodes := g.nodes.modify i f }

def Cfg.get (g : Cfg) (i : Nat) : CNode := g.nodes[i]!

def Cfg.addEdge (g : Cfg) (a b : Nat) : Cfg :=
  (g.modify a fun n => { n with nexts := insNat b n.nexts }).modify b
    fun n => { n with prevs := insNat a n.prevs }

/-! ### `Cfg::new_with_predefined_call_names` -/

def nameIn (s : List (W String)) (n : String) : Bool := s.any (·.val == n)
def addName (s : List (W String)) (w : W String) : List (W String) :=
  if nameIn s w.val then s else s ++ [w]     -- HashSet insert keeps the first token

def callNames (nodes : List Node) : List (W String) :=
  nodes.foldl (fun s n => match n.callsTo with | some w => addName s w | none => s) []
def jumpNames (nodes : List Node) : List (W String) :=
  nodes.foldl (fun s n => match n.jumpsTo with | some w => addName s w | none => s) []
def loadNames (nodes : List Node) : List (W String) :=
  nodes.foldl (fun s n => match n.readsAddressOf with | some w => addName s w | none => s) []
def labelNames (nodes : List Node) : List (W String) :=
  nodes.foldl (fun s n => match n with | .label w _ => addName s w | _ => s) []

structure BuildSt where
  out : Array CNode := #[]
  cur : List (W String) := []
  all : List String := []
  isText : Bool := true

def Node.fileOf (n : Node) : FileId := n.tok.file

/-- `call_names` including the predefined (interrupt handler) names -/
def allCallNames (nodes : List Node) (predefined : Option (List (W String))) : List (W String) :=
  (predefined.getD []).foldl addName (callNames nodes)

/-- `call_names ∪ jump_names ∪ load_names`. `HashSet::union` iterates the *larger* set first, so
    for a name in both sets the token of the larger set is the one that is kept. -/
def usedNames (nodes : List Node) (predefined : Option (List (W String))) : List (W String) :=
  let union (a b : List (W String)) : List (W String) :=
    if a.length ≥ b.length then b.foldl addName a else a.foldl addName b
  union (union (allCallNames nodes predefined) (jumpNames nodes)) (loadNames nodes)

/-- the used names that no label defines -/
def undefinedNames (nodes : List Node) (predefined : Option (List (W String))) : List (W String) :=
  (usedNames nodes predefined).filter fun w => !nameIn (labelNames nodes) w.val

/-- one source node of PASS 1 of `Cfg::new` -/
def buildStep (calls : List (W String)) (predefined : Option (List (W String))) (st : BuildSt) (node : Node) :
    Except CfgErr BuildSt :=
  match node with
  | .label name _ =>
    if st.all.contains name.val then .error (.duplicateLabel name)
    else .ok { st with cur := st.cur ++ [name], all := name.val :: st.all }
  | .directive _ .dataSection _ => .ok { st with isText := false }
  | .directive _ .textSection _ => .ok { st with isText := true }
  | .directive .. => .ok st
  | _ =>
    if st.cur.any (fun l => nameIn calls l.val) then
      let isInt := match predefined with
        | some p => st.cur.any (fun l => nameIn p l.val)
        | none => false
      let entry : CNode :=
        { node := .funcEntry node.fileOf node.tok isInt, labels := st.cur, isText := st.isText }
      let body : CNode := { node := node, labels := [], isText := st.isText }
      .ok { st with out := (st.out.push entry).push body, cur := [] }
    else
      .ok { st with out := st.out.push { node := node, labels := st.cur, isText := st.isText }, cur := [] }

def buildLoop (calls : List (W String)) (predefined : Option (List (W String))) :
    List Node → BuildSt → Except CfgErr BuildSt
  | [], st => .ok st
  | n :: rest, st =>
    match buildStep calls predefined st n with
    | .ok st' => buildLoop calls predefined rest st'
    | .error e => .error e

/-- PASS 1 of `Cfg::new`: one graph node per instruction, function entries in front of called labels -/
def buildNodes (nodes : List Node) (predefined : Option (List (W String))) : Except CfgErr Cfg :=
  match buildLoop (allCallNames nodes predefined) predefined nodes {} with
  | .ok st => .ok { nodes := st.out }
  | .error e => .error e

def buildCfg (nodes : List Node) (predefined : Option (List (W String))) : Except CfgErr Cfg :=
  if (undefinedNames nodes predefined).isEmpty then buildNodes nodes predefined
  else .error (.labelsNotDefined (undefinedNames nodes predefined))

/-! ### `NodeDirectionPass` -/

def findLabel (g : Cfg) (l : String) : Option Nat :=
  (List.range g.nodes.size).find? fun i => nameIn (g.get i).labels l

/-- One iteration of the `NodeDirectionPass` loop: the jump edge of node `i`, the fall-through
    edge from the previous node, and the new "previous node". -/
def dirStep (st : Cfg × Option Nat) (i : Nat) : Except CfgErr (Cfg × Option Nat) :=
  let g := st.1
  let n := (g.get i).node
  let jumped : Except CfgErr Cfg :=
    match n.jumpsTo with
    | some l =>
      match findLabel g l.val with
      | some j => .ok (g.addEdge i j)
      | none => .error .unexpectedError
    | none => .ok g
  match jumped with
  | .error e => .error e
  | .ok g1 =>
    let g2 := match st.2 with
      | some p => g1.addEdge p i
      | none => g1
    .ok (g2, if n.isReturn || n.isUnconditionalJump then none else some i)

def dirLoop : List Nat → Cfg × Option Nat → Except CfgErr (Cfg × Option Nat)
  | [], st => .ok st
  | i :: rest, st =>
    match dirStep st i with
    | .ok st' => dirLoop rest st'
    | .error e => .error e

def directions (g0 : Cfg) : Except CfgErr Cfg :=
  match dirLoop (List.range g0.nodes.size) (g0, none) with
  | .ok st => .ok st.1
  | .error e => .error e

/-! ### `EliminateDeadCodeDirectionsPass` (sweeps repeated until one removes no edge: `deadLoop`) -/

def removeNat (x : Nat) (l : List Nat) : List Nat := l.filter (· != x)

/-- remove every out-edge of `i` (`for next in nexts { next.remove_prev(i) }; clear_nexts()`) -/
def Cfg.cutOut (g : Cfg) (i : Nat) : Cfg :=
  ((g.get i).nexts.foldl (fun g s => g.modify s fun m => { m with prevs := removeNat i m.prevs }) g).modify i
    fun m => { m with nexts := [] }

/-- remove every in-edge of `i` -/
def Cfg.cutIn (g : Cfg) (i : Nat) : Cfg :=
  ((g.get i).prevs.foldl (fun g p => g.modify p fun m => { m with nexts := removeNat i m.nexts }) g).modify i
    fun m => { m with prevs := [] }

def deadStep (g : Cfg) (i : Nat) : Cfg :=
  let n := (g.get i).node
  if n.isReturn || n.isIndirectJump || n.isAnyEntry then g
  else
    -- (an ecall may end the program: it is no dead end; an ecall nothing reaches is cut off like any node)
    let g1 := if (g.get i).nexts.isEmpty && !n.mightTerminate then g.cutIn i else g
    if (g1.get i).prevs.isEmpty then g1.cutOut i else g1

def deadSweep (g : Cfg) : Cfg := (List.range g.nodes.size).foldl deadStep g

/-- number of successor and predecessor entries: a sweep that cuts nothing leaves it unchanged -/
def edgeCount (g : Cfg) : Nat := g.nodes.toList.foldl (fun a cn => a + cn.nexts.length + cn.prevs.length) 0

/-- `while changed { sweep }`: a sweep that removed an edge is followed by another one -/
def deadLoop : Nat → Cfg → Cfg
  | 0, g => g
  | fuel + 1, g =>
    let g' := deadSweep g
    if edgeCount g' == edgeCount g then g' else deadLoop fuel g'

def deadCode (g : Cfg) : Cfg := deadLoop (edgeCount g + 1) g

/-! ### `EcallTerminationPass` -/

def knownEcall (n : CNode) : Option Word :=
  if n.node.isEcall then
    match AMap.get n.regIn Gen.ecallTypeReg with
    | some (.const c) => some c
    | _ => none
  else none

def isProgramExit (n : CNode) : Bool :=
  knownEcall n == some 10#32 || knownEcall n == some 93#32

/-- `CfgNode::known_ecall_signature` -/
def ecallSignature (n : CNode) : Option (RegSet × RegSet) :=
  match knownEcall n with
  | some c =>
    match Gen.ecallTable.find? (fun row => row.1 == c.toInt) with
    | some (_, ins, outs) => some (RegSet.ofList ins, RegSet.ofList outs)
    | none => none
  | none => none

def ecallStep (g : Cfg) (i : Nat) : Cfg := if isProgramExit (g.get i) then g.cutOut i else g

def ecallTerm (g : Cfg) : Cfg := (List.range g.nodes.size).foldl ecallStep g

/-! ### `FunctionMarkupPass`

  `mark_reachable` walks `CfgNextsIterator` (a stack-based DFS over `nexts`) and mutates while it
  walks: the first return met becomes the exit, every later one is rewired to jump to it.
  The order in which successors are pushed comes from a `HashSet`; `desc` selects one of two
  deterministic orders (ascending or descending push), so that both exits of a two-return
  function can be produced. -/

/-- the rewritten return keeps its own raw token (its location), whatever exit it now jumps to -/
def returnJump (found : CNode) (exitTok : RawTok) : Node :=
  let info : FTok := ⟨.symbol, "return", found.node.tok.text, found.node.tok.range, found.node.tok.file⟩
  .jumpLink ⟨"Jal", info⟩ ⟨0, info⟩ ⟨"<return>", info⟩ exitTok

structure MarkSt where
  g : Cfg
  stack : List Nat
  visited : List Nat := []
  insts : List Nat := []      -- reverse order
  defs : RegSet := 0#32
  ret : Option Nat := none

/-- an additional return `i` of a function whose exit is `r`: `i` becomes a jump to `r`
    (found_ret.nexts := {prev_ret}; prev_ret.prevs += found_ret; node := jump) -/
def rewireReturn (g : Cfg) (i r : Nat) : Cfg :=
  (g.modify i fun m => { m with nexts := [r], node := returnJump m m.node.tok }).modify r
    fun m => { m with prevs := insNat i m.prevs }

def markLoop (desc : Bool) (entry : Nat) : Nat → MarkSt → MarkSt
  | 0, st => st
  | fuel + 1, st =>
    match st.stack with
    | [] => st
    | i :: rest =>
      if st.visited.contains i then markLoop desc entry fuel { st with stack := rest }
      else
        let cn := st.g.get i
        -- push successors (captured before the node may be rewired, as the iterator does)
        let succ := if desc then cn.nexts.reverse else cn.nexts
        let stack' := succ.foldl (fun s x => x :: s) rest
        let g1 := st.g.modify i fun m => { m with funcs := insNat entry m.funcs }
        let defs := match cn.node.writesTo with
          | some rd => st.defs ||| RegSet.single rd.val
          | none => st.defs
        let st' : MarkSt := { st with g := g1, stack := stack', visited := i :: st.visited,
                                      insts := i :: st.insts, defs := defs }
        if cn.node.isReturn then
          match st.ret with
          | some r =>
            -- rewire: found_ret.nexts := {prev_ret}; prev_ret.prevs += found_ret; node := jump
            markLoop desc entry fuel { st' with g := rewireReturn g1 i r }
          | none => markLoop desc entry fuel { st' with ret := some i }
        else markLoop desc entry fuel st'

def markFuel (g : Cfg) : Nat := 4 * (g.nodes.size + 1) * (g.nodes.size + 1) + 16

/-- `FunctionMarkupPass` at one node index: nothing unless it is a function entry -/
def markStep (desc : Bool) (g : Cfg) (e : Nat) : Except CfgErr Cfg :=
  if !(g.get e).node.isFunctionEntry then .ok g
  else
    let labels := (g.get e).labels
    let st := markLoop desc e (markFuel g) { g := g, stack := [e] }
    match st.ret with
    | none => .error .unexpectedError
    | some r =>
      .ok { st.g with
        funcs := st.g.funcs ++ [{ entry := e, exit := r, nodes := st.insts.reverse, defs := st.defs }],
        labelFunc := labels.foldl (fun lf l => (l.val, e) :: lf.filter (·.1 != l.val)) st.g.labelFunc }

def markAll (desc : Bool) : List Nat → Cfg → Except CfgErr Cfg
  | [], g => .ok g
  | e :: rest, g =>
    match markStep desc g e with
    | .ok g' => markAll desc rest g'
    | .error err => .error err

def markup (desc : Bool) (g0 : Cfg) : Except CfgErr Cfg := markAll desc (List.range g0.nodes.size) g0

/-- did every walk of `markAll` end with an empty stack (i.e. within its fuel)? Decides the
    hypothesis of `body_is_reachable_set` for a concrete graph. -/
def markAllDone (desc : Bool) : List Nat → Cfg → Bool
  | [], _ => true
  | e :: rest, g =>
    let done := !(g.get e).node.isFunctionEntry ||
      (markLoop desc e (markFuel g) { g := g, stack := [e] }).stack.isEmpty
    match markStep desc g e with
    | .ok g' => done && markAllDone desc rest g'
    | .error _ => done

def Cfg.funcOfEntry (g : Cfg) (e : Nat) : Option Func := g.funcs.find? (·.entry == e)
def Cfg.funcOfLabel (g : Cfg) (l : String) : Option Func :=
  match g.labelFunc.find? (·.1 == l) with
  | some p => g.funcOfEntry p.2
  | none => none

/-- `CfgNode::calls_to_from_cfg` -/
def callsToFromCfg (g : Cfg) (n : CNode) : Option (Func × W String) :=
  match n.node.callsTo with
  | some name => (g.funcOfLabel name.val).map (·, name)
  | none =>
    match n.node.isSomeJumpToLabel with
    | some name => (g.funcOfLabel name.val).map (·, name)
    | none => none

end Rva
