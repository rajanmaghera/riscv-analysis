/-
  Rva.Model.Pipeline — `Manager::gen_full_cfg`, `Manager::run_diagnostics`, `RVParser::run`
  (passes/manager.rs, parser/parsing.rs) and the canonical traces of every stage.
-/
import Rva.Model.Parser
import Rva.Model.Lints
namespace Rva

inductive PipeErr where
  | cfg (e : CfgErr)
  | hang (stage : String)
  deriving Repr, Inhabited

def liftCfg {α} (e : Except CfgErr α) : Except PipeErr α :=
  match e with
  | .ok a => .ok a
  | .error e => .error (.cfg e)

def runAvail (stage : String) (g : Cfg) : Except PipeErr Cfg :=
  match available g with
  | (g', true) => .ok g'
  | (_, false) => .error (.hang stage)

/-- `Manager::gen_full_cfg`. `desc` is the successor order of the markup DFS (see Cfg.lean). -/
def genFullCfg (desc : Bool) (nodes : List Node) : Except PipeErr Cfg := do
  -- Stage 1: names of interrupt handler functions
  let g1 ← liftCfg (buildCfg nodes none)
  let g1 ← liftCfg (directions g1)
  let g1 ← runAvail "stage1-available" g1
  let names := interruptHandlerNames g1
  -- Stage 2
  let g ← liftCfg (buildCfg nodes (some names))
  let g ← liftCfg (directions g)
  let g := deadCode g
  let g ← runAvail "available-1" g
  let g := ecallTerm g
  let g ← liftCfg (markup desc g)
  let g ← runAvail "available-2" g
  let g := ecallTerm g
  match liveness g with
  | (g', true) => pure g'
  | (_, false) => throw (.hang "liveness")

/-- the graph that enters the function markup pass -/
def genPreMarkup (nodes : List Node) : Except PipeErr Cfg := do
  let g1 ← liftCfg (buildCfg nodes none)
  let g1 ← liftCfg (directions g1)
  let g1 ← runAvail "stage1-available" g1
  let names := interruptHandlerNames g1
  let g ← liftCfg (buildCfg nodes (some names))
  let g ← liftCfg (directions g)
  let g := deadCode g
  let g ← runAvail "available-1" g
  pure (ecallTerm g)

/-- the pipeline up to and including the second run of the value analysis, with the set of
    nodes that run visited: the graph the register claims of the final result were computed on -/
def genValueCfg (desc : Bool) (nodes : List Node) : Except PipeErr (Cfg × List Nat) := do
  let g1 ← liftCfg (buildCfg nodes none)
  let g1 ← liftCfg (directions g1)
  let g1 ← runAvail "stage1-available" g1
  let names := interruptHandlerNames g1
  let g ← liftCfg (buildCfg nodes (some names))
  let g ← liftCfg (directions g)
  let g := deadCode g
  let g ← runAvail "available-1" g
  let g := ecallTerm g
  let g ← liftCfg (markup desc g)
  match availableV g with
  | (g', vis, true) => pure (g', vis)
  | (_, _, false) => throw (.hang "available-2")

/-! ### traces -/

def idxList (l : List Nat) : String := "[" ++ ",".intercalate (l.map toString) ++ "]"

def sortStrings (l : List String) : List String := sortBy (fun a b => a < b) l

def cfgTrace (tag : String) (g : Cfg) : List String :=
  let nodeLines := (List.range g.nodes.size).map fun i =>
    let cn := g.get i
    let labels := sortStrings (cn.labels.map fun l => hexOfString l.val)
    s!"{tag} {i} {cn.node.kindName} seg={if cn.isText then "T" else "D"} labels=[{",".intercalate labels}] nexts={idxList cn.nexts} prevs={idxList cn.prevs} funcs={idxList cn.funcs} node={cn.node.trace}"
  let funcLines := g.funcs.map fun f =>
    let labels := sortStrings ((g.get f.entry).labels.map fun l => hexOfString l.val)
    let nodes := f.nodes.foldl (fun acc x => insNat x acc) []
    s!"{tag}.FUNC entry={f.entry} exit={f.exit} labels=[{",".intercalate labels}] nodes={idxList nodes} defs={RegSet.str f.defs} args={RegSet.str (funcArguments g f)} rets={RegSet.str (funcReturns g f)}"
  let fl := sortStrings (g.labelFunc.map fun p => s!"{hexOfString p.1}>{p.2}")
  nodeLines ++ funcLines ++ [s!"{tag}.FUNCLABELS [{",".intercalate fl}]"]

def factTrace (tag : String) (g : Cfg) : List String :=
  (List.range g.nodes.size).map fun i =>
    let cn := g.get i
    s!"{tag} {i} ri={regMapStr cn.regIn} ro={regMapStr cn.regOut} mi={memMapStr cn.memIn} mo={memMapStr cn.memOut} li={RegSet.str cn.liveIn} lo={RegSet.str cn.liveOut} ud={RegSet.str cn.uDef}"

def cfgErrTrace : CfgErr → String
  | .labelsNotDefined ls =>
    let names := sortStrings (ls.map fun l => hexOfString l.val)
    let locs := sortStrings (ls.map fun l => l.tok.loc)
    s!"LabelsNotDefined [{",".intercalate names}] at=* candidates=[{",".intercalate locs}]"
  | .duplicateLabel l => s!"DuplicateLabel {hexOfString l.val} at={l.tok.loc}"
  | .unexpectedError => "UnexpectedError"

def pipeErrTrace : PipeErr → String
  | .cfg e => cfgErrTrace e
  | .hang s => s!"HANG {s}"

/-! ### `RVParser::run`: everything as `DiagnosticItem`s, sorted -/

def tokTypeDisplay (t : FTok) : String :=
  match t.kind with
  | .label => s!"LABEL({t.payload})"
  | .symbol => s!"SYMBOL({t.payload})"
  | .directive => s!"DIRECTIVE({t.payload})"
  | .string => s!"STRING({t.payload})"
  | .char => s!"CHAR({t.payload})"
  | .comment => s!"COMMENT{t.payload}"
  | .newline => "NEWLINE"
  | .lparen => "LPAREN"
  | .rparen => "RPAREN"

def parseErrTitle : ParseErr → String
  | .expected tys t => s!"Expected {" or ".intercalate tys}, found {tokTypeDisplay t}"
  | .unsupported _ => "Unsupported operation"
  | .unexpectedToken _ => "Unexpected token"
  | .unexpectedError _ => "Unexpected error"
  | .unknownDirective _ => "Unknown directive"
  | .cyclicDependency _ => "Cyclic dependency"
  | .fileNotFound p => s!"File not found: {p.val}"
  | .ioError p m => s!"IO Error: {p.val} ({m})"
  | .invalidString .. => "Invalid string"

def parseErrDiag (e : ParseErr) : Diag :=
  let t := e.tok
  { code := "parse-error", sev := "Error", title := parseErrTitle e, range := t.range, file := t.file,
    text := t.text }

/-- located at the label written first (`first_used` in passes/cfg_error.rs: minimum by range, then by name; `firstLabel`) -/
def cfgErrDiag : CfgErr → Diag
  | .labelsNotDefined ls =>
    let names := sortStrings (ls.map (·.val))
    -- located at the label written first (`first_used`: by offsets, then by name)
    let first := (firstLabel ls).getD ls.head!
    { code := "cfg-error", sev := "Error", title := s!"Labels not defined: {", ".intercalate names}",
      range := first.tok.range, file := first.tok.file }
  | .duplicateLabel l =>
    { code := "cfg-error", sev := "Error", title := s!"Duplicate label: {l.val}",
      range := l.tok.range, file := l.tok.file }
  | .unexpectedError =>
    { code := "cfg-error", sev := "Error", title := "Unexpected error",
      range := ⟨⟨0, 0, 0⟩, ⟨0, 0, 0⟩⟩, file := nilFile }

/-- rank of a file by its name among the files read (`get_filename(uuid)` compared as
    `Option<String>`: no file sorts first) -/
def fileRank (names : List String) (f : FileId) : Nat :=
  match names[f]? with
  | some n => if f == nilFile then 0 else 1 + (names.filter (· < n)).length
  | none => 0

def withRank (names : List String) (d : Diag) : Diag := { d with frank := fileRank names d.file }

def diagLt (a b : Diag) : Bool :=
  a.frank < b.frank || (a.frank == b.frank &&
    (a.range.start.raw < b.range.start.raw ||
      (a.range.start.raw == b.range.start.raw && a.range.stop.raw < b.range.stop.raw)))

/-- stable insertion sort (keeps the order of equal keys, as `slice::sort` does) -/
def insertStable (x : Diag) : List Diag → List Diag
  | [] => [x]
  | y :: ys => if diagLt x y then x :: y :: ys else y :: insertStable x ys

def sortDiags (l : List Diag) : List Diag := l.foldl (fun acc x => insertStable x acc) []

/-- `RVParser::run` (the `Result` of `gen_full_cfg` decides between lints and the CFG error). -/
def runAll (desc : Bool) (files : List (String × String)) (base : String) :
    List Diag × Option String :=
  let out := parseFiles files base
  let pd := out.errors.map parseErrDiag
  match genFullCfg desc out.nodes with
  | .ok g => (sortDiags ((pd ++ runLints g).map (withRank out.reader.read)), none)
  | .error (.cfg e) => (sortDiags ((pd ++ [cfgErrDiag e]).map (withRank out.reader.read)), none)
  | .error (.hang s) => (sortDiags (pd.map (withRank out.reader.read)), some s)

def Diag.runTrace (d : Diag) : String :=
  let alts := if d.alts.isEmpty then "" else
    " alts=[" ++ ",".intercalate (d.alts.map fun a => locStr a.1 a.2) ++ "]"
  s!"RUN sev={d.sev} title={hexOfString d.title} at={locStr d.range d.file} desc=-{alts}"

/-- extra pass runs applied after the standard pipeline (`x:<letters>` of the protocol) -/
def applyExtra (g : Cfg) : List Char → Option Cfg
  | [] => some g
  | 'a' :: rest => match available g with
    | (g', true) => applyExtra g' rest
    | (_, false) => none
  | 'e' :: rest => applyExtra (ecallTerm g) rest
  | 'l' :: rest => match liveness g with
    | (g', true) => applyExtra g' rest
    | (_, false) => none
  | 'd' :: rest => applyExtra (deadCode g) rest
  | _ :: rest => applyExtra g rest

/-- The `pipe` request of the line protocol. -/
def pipeTrace (stages : List String) (files : List (String × String)) (desc : Bool)
    (extra : String := "") : List String :=
  match files with
  | [] => ["BADOP"]
  | (base, _) :: _ =>
    let out := parseFiles files base
    let parseLines :=
      if stages.contains "parse" then
        (out.nodes.zipIdx.map fun (n, i) => s!"NODE {i} {n.trace}") ++
        (out.errors.map fun e => s!"PERR {e.trace}")
      else []
    let stepLines : List String :=
      if stages.contains "steps" then
        match buildCfg out.nodes none with
        | .error e => [s!"STEPERR new {cfgErrTrace e}"]
        | .ok g0 =>
          let s0 := cfgTrace "S0" g0
          match directions g0 with
          | .error e => s0 ++ [s!"STEPERR S1 {cfgErrTrace e}"]
          | .ok g1 =>
            let g2 := deadCode g1
            match available g2 with
            | (_, false) => s0 ++ cfgTrace "S1" g1 ++ cfgTrace "S2" g2 ++ ["HANG S3"]
            | (g3, true) =>
              let g4 := ecallTerm g3
              let pre := s0 ++ cfgTrace "S1" g1 ++ cfgTrace "S2" g2 ++ cfgTrace "S3" g3 ++ cfgTrace "S4" g4
              match markup desc g4 with
              | .error e => pre ++ [s!"STEPERR S5 {cfgErrTrace e}"]
              | .ok g5 => pre ++ cfgTrace "S5" g5
      else []
    let wantFull := stages.any fun s => s == "cfg" || s == "facts" || s == "lints"
    let fullLines : List String :=
      if wantFull then
        match genFullCfg desc out.nodes with
        | .error e => [s!"CFGERR {pipeErrTrace e}"]
        | .ok g =>
          (if stages.contains "cfg" then cfgTrace "CFG" g else []) ++
          (if stages.contains "facts" then factTrace "FACT" g else []) ++
          (if stages.contains "lints" then (runLints g).map (Diag.trace "LINT") else [])
      else []
    let runLines : List String :=
      if stages.contains "run" then
        let (ds, hang) := runAll desc files base
        ds.map Diag.runTrace ++ (match hang with | some s => [s!"HANG {s}"] | none => [])
      else []
    let extraLines : List String :=
      if extra.isEmpty then [] else
        match genFullCfg desc out.nodes with
        | .error _ => []
        | .ok g =>
          match applyExtra g extra.toList with
          | none => ["HANG extra"]
          | some g' => cfgTrace "XCFG" g' ++ factTrace "XFACT" g' ++ (runLints g').map (Diag.trace "XLINT")
    -- stage `good` (model only): are the finished value facts a fixed point in the sense of
    -- `GoodFacts` (the hypothesis of `exec_sound`)?
    let goodLines : List String :=
      if stages.contains "good" then
        match genValueCfg desc out.nodes with
        | .error e => [s!"GOODFACTS n/a {pipeErrTrace e}"]
        | .ok (g, vis) =>
          let same := match genFullCfg desc out.nodes with
            | .ok gf => (List.range g.nodes.size).all fun i =>
                AMap.sameAs (g.get i).regIn (gf.get i).regIn && AMap.sameAs (g.get i).regOut (gf.get i).regOut
            | .error _ => false
          let markDone := match genPreMarkup out.nodes with
            | .ok gp => markAllDone desc (List.range gp.nodes.size) gp
            | .error _ => false
          [s!"GOODFACTS {goodFactsB g vis} final-facts-are-these={same} visited={vis.length}/{g.nodes.size}",
           s!"GOODMEM {goodMemFactsB g vis}",
           s!"MARKDONE {markDone}"] ++
          (if goodFactsB g vis then [] else [s!"GOODWHY {goodFactsWhy g vis}"])
      else []
    parseLines ++ stepLines ++ fullLines ++ extraLines ++ runLines ++ goodLines

end Rva
