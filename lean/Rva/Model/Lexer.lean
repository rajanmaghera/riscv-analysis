/-
  Rva.Model.Lexer — model of `Lexer` (riscv_analysis/src/parser/lexer.rs), as repaired.

  The Rust lexer owns `source: Vec<char>` and a cursor `pos/row/col`; every method that moves
  the cursor does so through `consume_char`. Here the cursor is a value and `adv` is
  `consume_char`. Loops are well-founded recursions on the number of characters left, so the
  fact that Lean accepts the definitions is the termination proof of the lexer's inner loops.
-/
import Rva.Model.Basic
namespace Rva

structure Cursor where
  pos : Nat
  row : Nat
  col : Nat
  deriving DecidableEq, Repr, Inhabited

namespace Cursor

def init : Cursor := ⟨0, 0, 0⟩

/-- `Lexer::peek(n)` -/
@[inline] def peek (src : Array Char) (c : Cursor) (n : Nat) : Option Char := src[c.pos + n]?

/-- `Lexer::current()` -/
@[inline] def cur (src : Array Char) (c : Cursor) : Option Char := src[c.pos]?

/-- `Lexer::consume_char` -/
def adv (src : Array Char) (c : Cursor) : Cursor :=
  match src[c.pos]? with
  | some ch => if ch == '\n' then ⟨c.pos + 1, c.row + 1, 0⟩ else ⟨c.pos + 1, c.row, c.col + 1⟩
  | none => c

/-- `Lexer::get_pos` -/
@[inline] def getPos (c : Cursor) : Pos := ⟨c.row, c.col, c.pos⟩

/-- `Lexer::get_range` -/
@[inline] def getRange (c : Cursor) : Range := ⟨c.getPos, c.getPos⟩

theorem lt_size_of_cur {src : Array Char} {c : Cursor} {ch : Char}
    (h : src[c.pos]? = some ch) : c.pos < src.size := by
  have := (Array.getElem?_eq_some_iff.mp h).1
  exact this

theorem adv_pos_of_cur {src : Array Char} {c : Cursor} {ch : Char}
    (h : src[c.pos]? = some ch) : (c.adv src).pos = c.pos + 1 := by
  unfold adv; rw [h]; dsimp only; split <;> rfl

theorem adv_pos_le (src : Array Char) (c : Cursor) : c.pos ≤ (c.adv src).pos := by
  unfold adv; split
  · split <;> simp
  · simp

end Cursor

open Cursor

inductive TokKind where
  | lparen | rparen | newline | label | symbol | directive | string | char | comment
  deriving DecidableEq, Repr, Inhabited

def TokKind.code : TokKind → String
  | .lparen => "LP" | .rparen => "RP" | .newline => "NL" | .label => "LABEL"
  | .symbol => "SYM" | .directive => "DIR" | .string => "STR" | .char => "CHR"
  | .comment => "CMT"

/-- `Token`: the `TokenType` tag with its payload string, the raw text, the range. -/
structure Token where
  kind : TokKind
  payload : String
  text : String
  range : Range
  deriving DecidableEq, Repr, Inhabited

inductive StrErr where
  | esc | unclosed | newline
  deriving DecidableEq, Repr, Inhabited

def StrErr.code : StrErr → String
  | .esc => "ESC" | .unclosed => "UNCLOSED" | .newline => "NEWLINE"

/-- What the `Lexer` iterator yields. -/
inductive LexItem where
  | tok (t : Token)
  | strErr (t : Token) (k : StrErr) (at_ : Pos)     -- `LexError::InvalidString`
  | unexpected (t : Token)                           -- `LexError::UnexpectedToken`
  deriving DecidableEq, Repr, Inhabited

def isWs (ch : Char) : Bool := ch == ' ' || ch == '\t' || ch == ',' || ch == '\r'

def isSymbolChar (ch : Char) : Bool :=
  ('a' ≤ ch && ch ≤ 'z') || ('A' ≤ ch && ch ≤ 'Z') || ch == '_' || ch == '-'

def isSymbolItem (ch : Char) : Bool := isSymbolChar ch || ('0' ≤ ch && ch ≤ '9')

/-- `Lexer::skip_ws` -/
def skipWs (src : Array Char) (c : Cursor) : Cursor :=
  match h : src[c.pos]? with
  | some ch => if isWs ch then skipWs src (c.adv src) else c
  | none => c
termination_by src.size - c.pos
decreasing_by
  have h1 := lt_size_of_cur h
  have h2 := adv_pos_of_cur h
  omega

/-- The accumulate-while-next-is-`p` loop shared by the directive and symbol arms:
    push the current character; if the next one satisfies `p`, move onto it and repeat.
    Returns the accumulated characters (reversed) and the cursor *on the last character*. -/
def accWhile (p : Char → Bool) (src : Array Char) (c : Cursor) (acc : List Char) :
    List Char × Cursor :=
  match h : src[c.pos]? with
  | some ch =>
    match src[c.pos + 1]? with
    | some nx => if p nx then accWhile p src (c.adv src) (ch :: acc) else (ch :: acc, c)
    | none => (ch :: acc, c)
  | none => (acc, c)
termination_by src.size - c.pos
decreasing_by
  have h1 := lt_size_of_cur h
  have h2 := adv_pos_of_cur h
  omega

/-- The comment loop: push the current character; stop on the last character before a
    newline or the end of input. -/
def accComment (src : Array Char) (c : Cursor) (acc : List Char) : List Char × Cursor :=
  match h : src[c.pos]? with
  | some ch =>
    match src[c.pos + 1]? with
    | some nx => if nx == '\n' then (ch :: acc, c) else accComment src (c.adv src) (ch :: acc)
    | none => (ch :: acc, c)
  | none => (acc, c)
termination_by src.size - c.pos
decreasing_by
  have h1 := lt_size_of_cur h
  have h2 := adv_pos_of_cur h
  omega

def hexDigitVal (c : Char) : Option Nat :=
  if '0' ≤ c ∧ c ≤ '9' then some (c.toNat - 48)
  else if 'a' ≤ c ∧ c ≤ 'f' then some (c.toNat - 87)
  else if 'A' ≤ c ∧ c ≤ 'F' then some (c.toNat - 55)
  else none

/-- `char::from_u32` -/
def charOfNat? (n : Nat) : Option Char :=
  if n.isValidChar then some (Char.ofNat n) else none

/-- `Lexer::unicode_code`: the cursor is on the backslash, `peek(1)` is `u`. On success the
    cursor has moved four characters. -/
def unicodeCode (src : Array Char) (c : Cursor) : Option (Char × Cursor) :=
  match peek src c 2, peek src c 3, peek src c 4, peek src c 5 with
  | some a, some b, some d, some e =>
    match hexDigitVal a, hexDigitVal b, hexDigitVal d, hexDigitVal e with
    | some a, some b, some d, some e =>
      match charOfNat? (((a * 16 + b) * 16 + d) * 16 + e) with
      | some ch => some (ch, (((c.adv src).adv src).adv src).adv src)
      | none => none
    | _, _, _, _ => none
  | _, _, _, _ => none

/-- `Lexer::escape_code`: the cursor is on the backslash. On success it has moved onto the
    last character of the escape. -/
def escapeCode (src : Array Char) (c : Cursor) : Option (Char × Cursor) :=
  match peek src c 1 with
  | some '\\' => some ('\\', c.adv src)
  | some '\'' => some ('\'', c.adv src)
  | some '"' => some ('"', c.adv src)
  | some 'n' => some ('\n', c.adv src)
  | some 't' => some ('\t', c.adv src)
  | some 'r' => some ('\r', c.adv src)
  | some 'b' => some (Char.ofNat 8, c.adv src)
  | some 'f' => some (Char.ofNat 12, c.adv src)
  | some '0' => some (Char.ofNat 0, c.adv src)
  | some 'u' =>
    match unicodeCode src c with
    | some (ch, c') => some (ch, c'.adv src)
    | none => none
  | _ => none

/-- `Lexer::acc_string`. Fuel is the number of characters left (each round consumes one);
    the escape case moves further, so the recursion is on explicit fuel. -/
def accString (src : Array Char) : Nat → Cursor → List Char → Except (StrErr × Cursor) (List Char × Cursor)
  | 0, c, _ => .error (.unclosed, c)
  | fuel + 1, c, acc =>
    match cur src c with
    | none => .error (.unclosed, c)
    | some ch =>
      if ch == '"' then .ok (acc, c)
      else if ch == '\n' then .error (.newline, c)
      else if ch == '\\' then
        match escapeCode src c with
        | some (e, c') => accString src fuel (c'.adv src) (e :: acc)
        | none => .error (.esc, c)
      else accString src fuel (c.adv src) (ch :: acc)

/-- `Lexer::skip_invalid_literal` -/
def skipInvalidLiteral (quote : Char) (src : Array Char) (c : Cursor) : Cursor :=
  match h : src[c.pos]? with
  | some ch =>
    if ch == '\n' then c
    else if ch == quote then c.adv src
    else skipInvalidLiteral quote src (c.adv src)
  | none => c
termination_by src.size - c.pos
decreasing_by
  have h1 := lt_size_of_cur h
  have h2 := adv_pos_of_cur h
  omega

def strOfRev (l : List Char) : String := String.ofList l.reverse

/-- the `'.'` arm: a directive, or a lone dot -/
def lexDirective (src : Array Char) (c : Cursor) : LexItem × Cursor :=
  let start := c.getPos
  let r := accWhile isSymbolChar src c []
  let stop := r.2.getPos
  let s := strOfRev r.1
  let t : Token := ⟨.directive, s, s, ⟨start, stop⟩⟩
  if s == "." then (.unexpected t, r.2.adv src) else (.tok t, r.2.adv src)

/-- the `'#'` arm -/
def lexComment (src : Array Char) (c : Cursor) : LexItem × Cursor :=
  let start := c.getPos
  let r := accComment src c []
  let stop := r.2.getPos
  let s := String.ofList (r.1.reverse.drop 1)
  (.tok ⟨.comment, s, s, ⟨start, stop⟩⟩, r.2.adv src)

/-- the `'"'` arm -/
def lexStringLit (src : Array Char) (c : Cursor) : LexItem × Cursor :=
  let start := c.getPos
  let c1 := c.adv src
  match accString src (src.size - c1.pos + 1) c1 [] with
  | .ok (acc, c2) =>
    let s := strOfRev acc
    (.tok ⟨.string, s, "\"" ++ s ++ "\"", ⟨start, c2.getPos⟩⟩, c2.adv src)
  | .error (k, c2) =>
    let c3 := if k == .esc then skipInvalidLiteral '"' src c2 else c2
    (.strErr ⟨.string, "", "", ⟨start, c2.getPos⟩⟩ k c2.getPos, c3)

/-- the `'\''` arm -/
def lexCharLit (src : Array Char) (c : Cursor) : LexItem × Cursor :=
  let start := c.getPos
  let c1 := c.adv src
  match cur src c1 with
  | none => (.strErr ⟨.string, "", "", ⟨start, c1.getPos⟩⟩ .unclosed c1.getPos, c1)
  | some ch =>
    if ch == '\\' then
      match escapeCode src c1 with
      | some (v, c2) =>
        let c3 := c2.adv src
        match cur src c3 with
        | some '\'' =>
          (.tok ⟨.char, String.singleton v, "'" ++ String.singleton v ++ "'", ⟨start, c3.getPos⟩⟩,
            c3.adv src)
        | some _ =>
          (.strErr ⟨.string, String.singleton v, String.singleton v, ⟨start, c3.getPos⟩⟩
            .unclosed c3.getPos, c3)
        | none => (.strErr ⟨.string, "", "", ⟨start, c3.getPos⟩⟩ .unclosed c3.getPos, c3)
      | none =>
        -- invalid escape: skip the rest of the literal
        (.strErr ⟨.string, String.singleton ch, String.singleton ch, ⟨start, c1.getPos⟩⟩
          .esc c1.getPos, skipInvalidLiteral '\'' src c1)
    else if ch == '\n' then
      (.strErr ⟨.string, String.singleton ch, String.singleton ch, ⟨start, c1.getPos⟩⟩
        .newline c1.getPos, c1)
    else
      let c3 := c1.adv src
      match cur src c3 with
      | some '\'' =>
        (.tok ⟨.char, String.singleton ch, "'" ++ String.singleton ch ++ "'", ⟨start, c3.getPos⟩⟩,
          c3.adv src)
      | some _ =>
        (.strErr ⟨.string, String.singleton ch, String.singleton ch, ⟨start, c3.getPos⟩⟩
          .unclosed c3.getPos, c3)
      | none => (.strErr ⟨.string, "", "", ⟨start, c3.getPos⟩⟩ .unclosed c3.getPos, c3)

/-- the default arm: an unexpected character, a label or a symbol -/
def lexSymbol (src : Array Char) (c : Cursor) (ch : Char) : LexItem × Cursor :=
  if !isSymbolItem ch then
    (.unexpected ⟨.symbol, String.singleton ch, String.singleton ch, c.getRange⟩, c.adv src)
  else
    let start := c.getPos
    let r := accWhile isSymbolItem src c []
    let s := strOfRev r.1
    if peek src r.2 1 == some ':' then
      let c2 := r.2.adv src
      (.tok ⟨.label, s, s ++ ":", ⟨start, c2.getPos⟩⟩, c2.adv src)
    else
      (.tok ⟨.symbol, s, s, ⟨start, r.2.getPos⟩⟩, r.2.adv src)

/-- One call of `Iterator::next` for `Lexer`: `none` at the end of input, otherwise the item
    and the cursor afterwards. -/
def lexNext (src : Array Char) (c0 : Cursor) : Option (LexItem × Cursor) :=
  let c := skipWs src c0
  match cur src c with
  | none => none
  | some ch =>
    if ch == '\n' then some (.tok ⟨.newline, "", "\n", c.getRange⟩, c.adv src)
    else if ch == '(' then some (.tok ⟨.lparen, "", "(", c.getRange⟩, c.adv src)
    else if ch == ')' then some (.tok ⟨.rparen, "", ")", c.getRange⟩, c.adv src)
    else if ch == '.' then some (lexDirective src c)
    else if ch == '#' then some (lexComment src c)
    else if ch == '"' then some (lexStringLit src c)
    else if ch == '\'' then some (lexCharLit src c)
    else some (lexSymbol src c ch)

/-- Collect everything the iterator yields. The recursion is well-founded on the characters
    left, guarded by a progress test; `lexNext_progress` (Proofs/LexTotal) shows the guard never
    fires (every item consumes at least one character), so `lexAll` is the whole token stream. -/
def lexAll (src : Array Char) (c : Cursor) : List LexItem :=
  match lexNext src c with
  | none => []
  | some (it, c') =>
    if h : c.pos < c'.pos ∧ c'.pos ≤ src.size then it :: lexAll src c' else [it]
termination_by src.size - c.pos
decreasing_by omega

def lexString (s : String) : List LexItem := lexAll s.toList.toArray Cursor.init

def Token.trace (t : Token) : String :=
  s!"{t.kind.code} {hexOfString t.payload} {hexOfString t.text} {t.range.str}"

def LexItem.trace : LexItem → String
  | .tok t => s!"TOK {t.trace}"
  | .strErr t k p => s!"LEXERR {k.code} {t.trace} {p.str}"
  | .unexpected t => s!"LEXERR UNEXPECTED {t.trace}"

end Rva
