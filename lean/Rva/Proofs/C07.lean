/-
  C07 — no source line is silently dropped; a bad line affects only itself. Here: error recovery
  (`recover`, the source's `recover_from_parse_error`) discards exactly the remainder of the current
  line, up to and including the next newline token, and nothing of the following lines.
-/
import Rva.Model.Parser
namespace Rva

def PItem.isNewline : PItem → Bool
  | .tok t => t.kind == .newline
  | _ => false

def PItem.isNl : PItem → Bool
  | .tok t => t.kind == .newline
  | _ => false

theorem PItem.isNl_eq : PItem.isNl = PItem.isNewline := rfl

theorem recover_cons (x : PItem) (l : List PItem) :
    recover (x :: l) = if x.isNewline then l else recover l := by
  cases x <;> simp [recover, PItem.isNewline]

theorem recover_skip (pre l : List PItem) (hpre : ∀ x ∈ pre, x.isNewline = false) :
    recover (pre ++ l) = recover l := by
  induction pre with
  | nil => rfl
  | cons x xs ih =>
    rw [List.cons_append, recover_cons, hpre x List.mem_cons_self]
    exact ih fun y hy => hpre y (List.mem_cons_of_mem _ hy)

/-- `recover_from_parse_error` skips to the end of the current line, no further. -/
theorem recover_spec (pre rest : List PItem) (nl : FTok) (hnl : nl.kind = .newline)
    (hpre : ∀ x ∈ pre, x.isNewline = false) :
    recover (pre ++ PItem.tok nl :: rest) = rest := by
  rw [recover_skip _ _ hpre, recover_cons]
  simp [PItem.isNewline, hnl]

/-- If no newline is left, recovery consumes everything (end of file). -/
theorem recover_no_newline (l : List PItem) (h : ∀ x ∈ l, x.isNewline = false) : recover l = [] := by
  simpa [recover] using recover_skip l [] h

theorem recover_isSuffix (l : List PItem) : recover l <:+ l := by
  induction l with
  | nil => exact List.suffix_refl _
  | cons x xs ih =>
    rw [recover_cons]
    split
    · exact List.suffix_cons _ _
    · exact ih.trans (List.suffix_cons _ _)

/-- Recovery discards from the front only: what it returns is a suffix of what it was given. -/
theorem recover_suffix (l : List PItem) : ∃ pre, l = pre ++ recover l :=
  let ⟨pre, h⟩ := recover_isSuffix l
  ⟨pre, h.symm⟩

theorem recover_append (l b : List PItem) (h : l.any PItem.isNl = true) : recover (l ++ b) = recover l ++ b := by
  rw [PItem.isNl_eq] at h
  induction l with
  | nil => simp at h
  | cons x xs ih =>
    rw [List.cons_append, recover_cons, recover_cons]
    split
    · rfl
    · rename_i hx
      exact ih (by simpa [hx] using h)

end Rva
