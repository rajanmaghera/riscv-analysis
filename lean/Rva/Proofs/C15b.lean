/-
  C15 at the parser level — a statement does not see what follows it.

  `Local m`: if the parser computation `m`, run on some items, does not fail with "unexpected end
  of input" (the only way a statement can notice that the items have run out), then run on the same
  items followed by *any* further items `b` it does exactly the same thing and leaves the same
  remainder followed by `b`. For the statement parser this is the frame rule behind textual
  inclusion: whatever is pasted or included after a statement that ends before the end of its file
  cannot change how that statement is read (`parseStep_local`, from `Built.local`: every
  computation built without `get` and `dropBad` is local). The statements that read on across lines
  - the operand lists of the data directives and macro bodies, whose loops use those two - are
  exactly the ones excluded (known finding F-56 is about them). The second half
  lifts the rule to the parse loop (`parseLoop_stepOK`, `parseLoop_sepAll`).
-/
import Rva.Proofs.ParseLoop
namespace Rva

def PState.app (s : PState) (b : List PItem) : PState := { s with items := s.items ++ b }

def Local {α} (m : P α) : Prop :=
  ∀ (s : PState) (b : List PItem), (runP m s).1 ≠ .error .unexpectedEOF →
    runP m (s.app b) = ((runP m s).1, (runP m s).2.app b)

/-- a synonym: `parseInst_lg` and `parseDirective_lg` are stated with it -/
def LG {α} (m : P α) : Prop := Local m

theorem Built.local {α} {K : List FTok} {tk : α → List FTok} {m : P α} (h : Built False K tk m) : Local m := by
  induction h with
  | pure | throw | rawNow => exact fun _ _ _ => rfl
  | @bind _ _ _ _ _ m _ _ _ hm hf =>
    intro s b hne
    have h1 := hm s b
    rw [runP_bind] at hne ⊢
    rw [runP_bind]
    generalize runP m s = r at h1 hne
    rcases r with ⟨e | a, s1⟩
    · rw [h1 fun h => hne (by cases h; rfl)]
    · rw [h1 nofun]
      exact hf a s1 b hne
  -- on an empty list `getAny` and `peekAny` report the end of the input, which `hne` excludes;
  -- on a non-empty one they look at the first item only
  | getAny =>
    intro s b hne
    rw [runP_getAny] at hne ⊢
    rw [runP_getAny]
    rcases hi : s.items with _ | ⟨_ | _ | _, _⟩ <;> simp_all [PState.app]
  | peekAny =>
    intro s b hne
    rw [runP_peekAny] at hne ⊢
    rw [runP_peekAny]
    rcases hi : s.items with _ | ⟨_ | _ | _, _⟩ <;> simp_all [PState.app]
  | get l | dropBad l => exact l.elim

theorem parseInst_lg (m : FTok) (v : String) : LG (parseInst m v) := (parseInst_stmt m v).built.local

theorem parseDirective_lg (m : FTok) (d : String) (hd : d ∉ loopDirectives) : LG (parseDirective m d) :=
  (parseDirective_stmt m d hd).built.local

/-- the first item of a statement is not a directive whose operands run across lines -/
def PlainHead (items : List PItem) : Prop :=
  ∀ t rest d, items = .tok t :: rest → t.kind = .directive → directiveFromStr t.payload = some d →
    d ∉ loopDirectives

/-- **C15 (`parseStep_local`).** A statement that is not a data directive or a macro definition, and
    that does not run into the end of its item list (it does not fail with "unexpected end of
    input"), is read the same way whatever follows that list: the items of the including file
    behind an included one, or the text pasted in their place. The result is the same and the
    remainder is the old remainder followed by the new items. -/
theorem parseStep_local (items b : List PItem) (hp : PlainHead items)
    (hne : (parseStep items).1 ≠ .error .unexpectedEOF) :
    parseStep (items ++ b) = ((parseStep items).1, (parseStep items).2 ++ b) := by
  rcases items with _ | ⟨t | _ | _, rest⟩
  · exact absurd rfl hne
  · rw [parseStep_tok] at hne
    rw [List.cons_append, parseStep_tok, parseStep_tok]
    have := (parseNodeK_stmt t (hp t rest · rfl)).built.local ⟨rest, t.raw⟩ b hne
    rw [show (⟨rest ++ b, t.raw⟩ : PState) = PState.app ⟨rest, t.raw⟩ b from rfl, this]
    rfl
  · rfl
  · rfl

theorem plainHead_tok {t : FTok} (rest : List PItem) (h : t.kind ≠ .directive) : PlainHead (.tok t :: rest) := by
  intro t' rest' d he hk _
  cases he
  exact absurd hk h

def StepOK (a : List PItem) : Prop :=
  PlainHead a ∧ (parseStep a).1 ≠ .error .unexpectedEOF ∧
  (∀ x, (parseStep a).1 = .ok x → x.includePath = none) ∧
  (∀ e, (parseStep a).1 = .error e → e.recovers = true → (parseStep a).2.any PItem.isNl = true)

theorem StepOK.of_ok {a rest : List PItem} {x : Node} (hp : PlainHead a) (h : parseStep a = (.ok x, rest))
    (hx : x.includePath = none) : StepOK a := by
  refine ⟨hp, ?_, ?_, ?_⟩ <;> rw [h]
  · simp
  · intro y hy; cases hy; exact hx
  · intro e he; cases he

/-- **C15 (`include_end_pops`).** When the items of an included file are used up, the loop goes on
    with the items of the including file that follow the directive. -/
theorem include_end_pops (fuel : Nat) (rest : List PItem) (below : List (List PItem)) (r : Reader)
    (nodes : List Node) (errs : List ParseErr) :
    parseLoop (fuel + 1) ([] :: rest :: below) r nodes errs = parseLoop fuel (rest :: below) r nodes errs :=
  parseLoop_eof rfl fuel _ r nodes errs

/-- where the newline asked for by `StepOK` is needed: recovery has to stop inside `a` -/
theorem nextTop_append {a : List PItem} (hok : StepOK a) (b : List PItem) : nextTop (a ++ b) = nextTop a ++ b := by
  obtain ⟨hp, hne, _, hrec⟩ := hok
  unfold nextTop
  rw [parseStep_local a b hp hne]
  generalize parseStep a = p at hrec ⊢
  obtain ⟨res, rest⟩ := p
  cases res with
  | ok x => rfl
  | error e =>
    simp only []
    split
    · rename_i hr; exact recover_append _ _ (hrec e rfl hr)
    · rfl

theorem parseLoop_stepOK {a : List PItem} (hok : StepOK a) (fuel : Nat) (b : List PItem)
    (below : List (List PItem)) (r : Reader) (nodes : List Node) (errs : List ParseErr) :
    parseLoop (fuel + 1) ((a ++ b) :: below) r nodes errs =
      parseLoop fuel ((nextTop a ++ b) :: below) r (stmtNodes (parseStep a).1 ++ nodes)
        (stmtErrs (parseStep a).1 ++ errs) := by
  have h1 : (parseStep (a ++ b)).1 = (parseStep a).1 := by rw [parseStep_local a b hok.1 hok.2.1]
  rw [parseLoop_plain (by rw [h1]; exact hok.2.1) (by rw [h1]; exact hok.2.2.1), h1, nextTop_append hok]

theorem include_step_commutes_next (a : List PItem) (r : Reader)
    (nodes : List Node) (errs : List ParseErr) (hok : StepOK a) :
    ∃ nodes' errs', ∀ (rest : List PItem) (below : List (List PItem)) (fuel : Nat),
      parseLoop (fuel + 1) (a :: rest :: below) r nodes errs =
        parseLoop fuel (nextTop a :: rest :: below) r nodes' errs' ∧
      parseLoop (fuel + 1) ((a ++ rest) :: below) r nodes errs =
        parseLoop fuel ((nextTop a ++ rest) :: below) r nodes' errs' :=
  ⟨_, _, fun rest below fuel => ⟨parseLoop_plain hok.2.1 hok.2.2.1 fuel _ r nodes errs,
    parseLoop_stepOK hok fuel rest below r nodes errs⟩⟩

/-- **C15 (`include_step_commutes`).** One step of the parse loop on the items `a` of an included
    file does the same whether the including file's remaining items `rest` wait below it on the
    stack (the file was included) or stand behind it in the same list (its text was pasted): the
    same node or error is collected and the same remainder `a'` of `a` is left - on top of `rest` in
    the first case, in front of it in the second. With `include_end_pops`, by induction over the
    statements of `a`: a program split with `.include` is read as the pasted text, as long as no
    statement of the included file reads on across its end (`StepOK`). -/
theorem include_step_commutes (fuel : Nat) (a rest : List PItem) (below : List (List PItem)) (r : Reader)
    (nodes : List Node) (errs : List ParseErr) (hok : StepOK a) :
    ∃ a' nodes' errs', a' <:+ a ∧
      parseLoop (fuel + 1) (a :: rest :: below) r nodes errs =
        parseLoop fuel (a' :: rest :: below) r nodes' errs' ∧
      parseLoop (fuel + 1) ((a ++ rest) :: below) r nodes errs =
        parseLoop fuel ((a' ++ rest) :: below) r nodes' errs' :=
  let ⟨n', e', h⟩ := include_step_commutes_next a r nodes errs hok
  ⟨nextTop a, n', e', nextTop_suffix a, h rest below fuel⟩

inductive SepAll : List PItem → Prop where
  | nil : SepAll []
  | step (a : List PItem) : a ≠ [] → StepOK a → SepAll (nextTop a) → SepAll a

theorem parseLoop_sepAll {a : List PItem} (hs : SepAll a) :
    ∃ k dn de, ∀ (fuel : Nat) (b : List PItem) (below : List (List PItem)) (r : Reader) (nodes : List Node)
      (errs : List ParseErr),
      parseLoop (fuel + k) ((a ++ b) :: below) r nodes errs =
        parseLoop fuel (b :: below) r (dn ++ nodes) (de ++ errs) := by
  induction hs with
  | nil => exact ⟨0, [], [], fun _ _ _ _ _ _ => rfl⟩
  | step a _ hok _ ih =>
    obtain ⟨k, dn, de, ih⟩ := ih
    refine ⟨k + 1, dn ++ stmtNodes (parseStep a).1, de ++ stmtErrs (parseStep a).1,
      fun fuel b below r nodes errs => ?_⟩
    rw [← Nat.add_assoc, parseLoop_stepOK hok, ih, List.append_assoc, List.append_assoc]

/-- **C15 (`include_is_paste`).** Reading an included file whose statements the frame rule covers
    (`SepAll a`: no data directive or macro, no nested `.include`, no statement cut off by the end of
    the file) and then going on in the including file reaches - one step later, for the return to the
    includer - exactly the configuration that reading the pasted text `a ++ rest` reaches: the same
    nodes and parse errors collected (they depend on the included items only, not on what follows),
    the same reader, the includer's remaining items `rest` on top. From there on the two runs are the
    same run. -/
theorem include_is_paste (a : List PItem) (hs : SepAll a) :
    ∀ (r : Reader) (nodes : List Node) (errs : List ParseErr),
    ∃ k nodes' errs', ∀ (rest : List PItem) (below : List (List PItem)) (fuel : Nat),
      parseLoop (fuel + k + 1) (a :: rest :: below) r nodes errs =
        parseLoop fuel (rest :: below) r nodes' errs' ∧
      parseLoop (fuel + k) ((a ++ rest) :: below) r nodes errs =
        parseLoop fuel (rest :: below) r nodes' errs' := by
  intro r nodes errs
  obtain ⟨k, dn, de, h⟩ := parseLoop_sepAll hs
  refine ⟨k, dn ++ nodes, de ++ errs, fun rest below fuel => ⟨?_, h fuel rest below r nodes errs⟩⟩
  have := h (fuel + 1) [] (rest :: below) r nodes errs
  rw [List.append_nil] at this
  rw [Nat.add_right_comm, this, include_end_pops]

/-- the hypotheses of `include_is_paste` are met by real item lists: a label on its own line followed
    by a blank line (and, by the same steps, any sequence of such lines) -/
theorem sepAll_label_line (tl tn : FTok) (l : String) (hl : tl.kind = .label)
    (hll : labelFromStr tl.payload = some l) (hn : tn.kind = .newline) :
    SepAll [.tok tl, .tok tn] := by
  have h1 := parseStep_label tl l [.tok tn] hl hll
  have h2 := parseStep_newline tn [] hn
  refine .step _ (by simp) (.of_ok (plainHead_tok _ (by simp [hl])) h1 rfl) ?_
  rw [nextTop_ok h1]
  refine .step _ (by simp) ⟨plainHead_tok _ (by simp [hn]), ?_, ?_, ?_⟩ ?_
  · rw [h2]; simp
  · rw [h2]; intro x hx; cases hx
  · rw [h2]; intro e he hr; cases he; cases hr
  · rw [nextTop_error h2]
    exact .nil

end Rva
