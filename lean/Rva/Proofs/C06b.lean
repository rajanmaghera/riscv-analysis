/-
  C06 — parsing terminates on every input and every include graph.

  `parseLoop_fuel_indep`: the result of the parse loop does not depend on its fuel once the fuel
  is at least the measure `mu` (twice the number of unread items on the lexer stack plus one per
  open file; for every file not yet read, twice its length plus eight, its share of the fuel
  `parseFiles` starts with): every step of the loop lowers the measure - it consumes an item
  (`parseStep_shorter`), closes a file, or opens a file that had not been read (a file is never
  opened twice: self-inclusion and cycles are refused by the reader). `parseFiles_terminates`: the
  fuel `parseFiles` starts with is enough, so the loop always ends because the stack is empty.
-/
import Rva.Proofs.ParseLoop
namespace Rva

def listW (l : List PItem) : Nat := 2 * l.length + 1
def stackW (st : List (List PItem)) : Nat := (st.map listW).sum
-- an opened file turns into at most `len + 2` items (`lexFile_length`), i.e. `2 * len + 5` on the stack,
-- and opening it costs a turn
def fileW (f : String × String) : Nat := 2 * f.2.length + 8
def unreadW (r : Reader) : Nat := ((r.files.filter fun f => !r.read.contains f.1).map fileW).sum
def mu (st : List (List PItem)) (r : Reader) : Nat := stackW st + unreadW r

theorem mu_cons (l : List PItem) (st : List (List PItem)) (r : Reader) :
    mu (l :: st) r = 2 * l.length + 1 + mu st r := by
  simp [mu, stackW, listW]; omega

theorem lexAll_length (src : Array Char) (c : Cursor) : (lexAll src c).length ≤ src.size - c.pos + 1 := by
  fun_induction lexAll src c with
  | case1 c h => simp
  | case2 c it c' h hg ih =>
    simp only [List.length_cons]
    omega
  | case3 c it c' h hg => simp

theorem lexString_length (s : String) : (lexString s).length ≤ s.length + 1 := by
  simpa [lexString, Cursor.init, String.length_toList] using lexAll_length s.toList.toArray Cursor.init

theorem lexFile_length (text : String) (f : FileId) : (lexFile text f).length ≤ text.length + 2 := by
  unfold lexFile
  simp only [List.length_map]
  split
  · exact Nat.le_succ_of_le (lexString_length text)
  · have h1 : ("\n" : String).length = 1 := by decide
    simpa [h1] using lexString_length (text ++ "\n")

theorem le_sum_of_mem {a : Nat} {l : List Nat} (h : a ∈ l) : a ≤ l.sum := by
  obtain ⟨s, t, rfl⟩ := List.append_of_mem h
  simp only [List.sum_append_nat, List.sum_cons]
  omega

theorem sum_filter_add_le {α} (w : α → Nat) (s : α → Bool) {m : List α} {x : α} (hx : x ∈ m) (hs : s x = false) :
    ((m.filter s).map w).sum + w x ≤ (m.map w).sum := by
  -- the sum splits into what `s` keeps and what it drops, and `x` is among the dropped
  have split := ((List.filter_append_perm s m).map w).sum_nat
  rw [List.map_append, List.sum_append_nat] at split
  have : w x ≤ ((m.filter fun y => !s y).map w).sum :=
    le_sum_of_mem (List.mem_map_of_mem (List.mem_filter.mpr ⟨hx, by rw [hs]; rfl⟩))
  omega

theorem importFile_unread {r r' : Reader} {p text : String} {fid : FileId}
    (h : r.importFile p = (.ok (fid, text), r')) : unreadW r' + (2 * text.length + 8) ≤ unreadW r := by
  obtain ⟨hnr, hmem, rfl⟩ := importFile_ok h
  have e : (r.files.filter fun f => !(r.read ++ [p]).contains f.1) =
      (r.files.filter fun f => !r.read.contains f.1).filter fun f => decide (f.1 ≠ p) := by
    rw [List.filter_filter]
    exact List.filter_congr fun f _ => by simp [Bool.and_comm]
  rw [unreadW, unreadW, e]
  exact sum_filter_add_le fileW _ (x := (p, text)) (List.mem_filter.mpr ⟨hmem, by rw [hnr]; rfl⟩) (by simp)

theorem parseLoop_turn (top : List PItem) (below : List (List PItem)) (r : Reader) :
    ∃ st' r' dn de, mu st' r' < mu (top :: below) r ∧
      ∀ fuel nodes errs, parseLoop (fuel + 1) (top :: below) r nodes errs =
        parseLoop fuel st' r' (dn ++ nodes) (de ++ errs) := by
  by_cases heof : (parseStep top).1 = .error .unexpectedEOF
  · exact ⟨below, r, [], [], by rw [mu_cons]; omega,
      fun fuel nodes errs => parseLoop_eof heof fuel below r nodes errs⟩
  have hne : top ≠ [] := fun ht => heof (ht ▸ rfl)
  have hlt := parseStep_shorter hne
  by_cases hinc : ∀ x, (parseStep top).1 = .ok x → x.includePath = none
  · have := nextTop_shorter top hne
    exact ⟨nextTop top :: below, r, _, _, by rw [mu_cons, mu_cons]; omega,
      fun fuel nodes errs => parseLoop_plain heof hinc fuel below r nodes errs⟩
  · obtain ⟨x, hx, hp⟩ : ∃ x, (parseStep top).1 = .ok x ∧ x.includePath ≠ none := by simpa using hinc
    obtain ⟨path, hp⟩ := Option.ne_none_iff_exists'.mp hp
    have hstep : parseStep top = (.ok x, (parseStep top).2) := Prod.ext hx rfl
    cases himp : r.importFile path.val with
    | mk res r' =>
      cases res with
      | error e =>
        obtain rfl := importFile_error himp
        exact ⟨(parseStep top).2 :: below, r', [], [e.toParseErr path],
          by rw [mu_cons, mu_cons]; omega,
          fun fuel nodes errs => include_fault_one_error fuel top below r' r' nodes errs x _ path e hstep hp himp⟩
      | ok ft =>
        obtain ⟨fid, text⟩ := ft
        have := importFile_unread himp
        have := lexFile_length text fid
        exact ⟨lexFile text fid :: (parseStep top).2 :: below, r', [], [],
          by rw [mu_cons, mu_cons, mu_cons]; unfold mu; omega,
          fun fuel nodes errs => include_enters_file fuel top below r r' nodes errs x _ path fid text hstep hp himp⟩

/-- **C06 (`parseLoop_fuel_indep`).** With at least `mu stack reader` fuel the parse loop gives the
    result it gives with any larger amount: it ends because its stack is empty, never because the
    fuel ran out. -/
theorem parseLoop_fuel_indep (fuel : Nat) : ∀ (fuel' : Nat) (st : List (List PItem)) (r : Reader)
    (nodes : List Node) (errs : List ParseErr), mu st r ≤ fuel → mu st r ≤ fuel' →
    parseLoop fuel st r nodes errs = parseLoop fuel' st r nodes errs := by
  induction fuel with
  | zero =>
    intro fuel' st r nodes errs h _
    cases st with
    | nil => rw [parseLoop_nil, parseLoop_nil]
    | cons top below => obtain ⟨_, _, _, _, hmu, _⟩ := parseLoop_turn top below r; omega
  | succ n ih =>
    intro fuel' st r nodes errs h h'
    cases st with
    | nil => rw [parseLoop_nil, parseLoop_nil]
    | cons top below =>
      obtain ⟨st', r', dn, de, hmu, hstep⟩ := parseLoop_turn top below r
      cases fuel' with
      | zero => omega
      | succ n' => rw [hstep, hstep]; exact ih _ _ _ _ _ (by omega) (by omega)

theorem foldl_fuel (files : List (String × String)) (a : Nat) :
    files.foldl (fun a f => a + 2 * f.2.length + 8) a = a + (files.map fileW).sum := by
  induction files generalizing a with
  | nil => simp
  | cons f fs ih => simp only [List.foldl_cons, ih, List.map_cons, List.sum_cons, fileW]; omega

theorem unreadW_fresh (files : List (String × String)) :
    unreadW { files := files } = (files.map fileW).sum := by
  rw [unreadW, List.filter_eq_self.mpr (by simp)]

/-- **C06 (`parseFiles_terminates`).** The fuel `parseFiles` gives its loop is enough for every
    set of files and every include graph among them (self-inclusion, cycles, missing files, any
    depth): with any additional fuel the loop returns the same nodes, errors and reader - it ends
    because the lexer stack is empty. -/
theorem parseFiles_terminates (files : List (String × String)) (base : String) (fid : FileId) (text : String)
    (r' : Reader) (h : ({ files := files } : Reader).importFile base = (.ok (fid, text), r')) (extra : Nat)
    (nodes : List Node) (errs : List ParseErr) :
    parseLoop (files.foldl (fun a f => a + 2 * f.2.length + 8) 16 + extra) [lexFile text fid] r' nodes errs =
      parseLoop (files.foldl (fun a f => a + 2 * f.2.length + 8) 16) [lexFile text fid] r' nodes errs := by
  have hmu : mu [lexFile text fid] r' ≤ files.foldl (fun a f => a + 2 * f.2.length + 8) 16 := by
    rw [foldl_fuel]
    have hw := importFile_unread h
    rw [unreadW_fresh] at hw
    have := lexFile_length text fid
    rw [mu_cons]
    simp only [mu, stackW, List.map_nil, List.sum_nil]
    omega
  exact parseLoop_fuel_indep _ _ _ _ _ _ (by omega) hmu

end Rva
