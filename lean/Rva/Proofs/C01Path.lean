/-
  C01, third layer — instructions that do not change any register a claim can speak about
  (branches, plain jumps, returns, stores), the facts of a finished run (`GoodFacts`, decided by
  `goodFactsB`) and what they give along a graph edge, and the executions `Exec` that
  `exec_sound` (C01Calls) speaks about.
-/
import Rva.Proofs.C01Transfer
namespace Rva

/-- changes no integer register: conditional branches, `j` (`jal x0`), `ret` / `jr` (`jalr x0`),
    stores (memory is not part of the register claims) -/
def Node.isQuiet : Node → Bool
  | .branch .. => true
  | .jumpLink _ rd _ _ => rd.val == 0
  | .jumpLinkR _ rd _ _ _ => rd.val == 0
  | .store .. => true
  | _ => false

theorem quiet_facts (n : Node) (hq : n.isQuiet = true) :
    n.isAnyEntry = false ∧ n.noMemRead ∧ n.genRegValue = none ∧ (∀ inn, mathResult n inn = none) ∧
    ∀ w, n.writesTo = some w → w.val = 0 := by
  cases n <;> simp [Node.isQuiet] at hq <;>
    refine ⟨rfl, ⟨rfl, fun _ _ => rfl⟩, rfl, fun _ => rfl, fun _ h => ?_⟩ <;> cases h <;> exact hq

theorem quiet_transfer_sound (cn : CNode) (inReg : AMap Reg) (inMem : AMap MemLoc) (s s' : MState)
    (hq : cn.node.isQuiet = true) (he0 : s.entry 0 = 0#32) (hs : Sound s inReg)
    (hreg : ∀ r, r ≠ 0 → s'.reg r = s.reg r) (hentry : s'.entry = s.entry) (haddr : s'.addr = s.addr) :
    Sound s' (nodeRegOut cn inReg inMem) := by
  obtain ⟨hne, hnm, hgen, hmath, hw⟩ := quiet_facts cn.node hq
  exact frame_transfer_sound cn inReg inMem s s' hne hnm he0 hs (fun r h0 _ => hreg r h0) hentry haddr
    (fun rd hwr h0 => absurd (hw rd hwr) h0) (fun r v h => by rw [hgen] at h; cases h)
    (fun rd v _ _ h => by rw [hmath] at h; cases h)

/-- what a finished run leaves, as far as the register claims are concerned: a fixed point of
    meet and transfer at the visited nodes `V` (equalities as finite maps, not as lists) -/
structure GoodFacts (g : Cfg) (V : List Nat) : Prop where
  wfIn : ∀ i, AMap.WF (g.get i).regIn
  wfOut : ∀ i, AMap.WF (g.get i).regOut
  vlt : ∀ i, i ∈ V → i < g.nodes.size
  eqIn : ∀ i, i ∈ V → ∀ k, AMap.get (g.get i).regIn k =
    AMap.get (meetOver (((g.get i).prevs.filter V.contains).map fun p => (g.get p).regOut)) k
  eqOut : ∀ i, i ∈ V → ∀ k, AMap.get (g.get i).regOut k =
    AMap.get (nodeRegOut (g.get i) (g.get i).regIn (g.get i).memIn) k

theorem get_meet_edge {κ : Type} [DecidableEq κ] (g : Cfg) (V : List Nat) (out : CNode → AMap κ)
    (hw : ∀ p, AMap.WF (out (g.get p))) (i j : Nat) (hi : i ∈ V) (hedge : i ∈ (g.get j).prevs) (k : κ)
    (v : AVal)
    (h : AMap.get (meetOver (((g.get j).prevs.filter V.contains).map fun p => out (g.get p))) k = some v) :
    AMap.get (out (g.get i)) k = some v :=
  AMap.get_meetOver _ (fun m hm => by obtain ⟨p, _, rfl⟩ := List.mem_map.mp hm; exact hw p) _
    (List.mem_map.mpr ⟨i, List.mem_filter.mpr ⟨hedge, by simpa using hi⟩, rfl⟩) k v h

theorem edge_sound (g : Cfg) (V : List Nat) (hf : GoodFacts g V) (i j : Nat) (hi : i ∈ V) (hj : j ∈ V)
    (hedge : i ∈ (g.get j).prevs) (s : MState)
    (h : Sound s (nodeRegOut (g.get i) (g.get i).regIn (g.get i).memIn)) : Sound s (g.get j).regIn :=
  fun r v hr => h r v (hf.eqOut i hi r ▸
    get_meet_edge g V (·.regOut) hf.wfOut i j hi hedge r v (hf.eqIn j hj r ▸ hr))

inductive NodeStep (g : Cfg) (i : Nat) (s s' : MState) : Prop where
  | plain (rd : Reg) (v : Word) : plainValue s (g.get i).node = some (rd, v) → rd < 32 →
      s.reg 0 = 0#32 → PlainStep s s' rd v → NodeStep g i s s'
  | quiet : (g.get i).node.isQuiet = true → (∀ r, r ≠ 0 → s'.reg r = s.reg r) →
      s'.entry = s.entry → s'.addr = s.addr → NodeStep g i s s'

/-- executions that follow graph edges through visited nodes: `Exec g V i0 s0 j s'` — started at node
    `i0` in state `s0`, control is now at node `j` in state `s'` -/
inductive Exec (g : Cfg) (V : List Nat) (i0 : Nat) (s0 : MState) : Nat → MState → Prop where
  | start : Exec g V i0 s0 i0 s0
  | step (i j : Nat) (s s' : MState) : Exec g V i0 s0 i s → NodeStep g i s s' →
      i ∈ V → j ∈ V → i ∈ (g.get j).prevs → Exec g V i0 s0 j s'

theorem nodeStep_sound (g : Cfg) (i : Nat) (s s' : MState) (hs : Sound s (g.get i).regIn)
    (he : s.entry 0 = 0#32) (hstep : NodeStep g i s s') :
    Sound s' (nodeRegOut (g.get i) (g.get i).regIn (g.get i).memIn) ∧ s'.entry 0 = 0#32 := by
  cases hstep with
  | plain rd v hval hrd hz hp =>
    exact ⟨plain_transfer_sound (g.get i) _ _ s s' rd v hval hrd hz he hs hp, hp.entry ▸ he⟩
  | quiet hq hreg hentry haddr =>
    exact ⟨quiet_transfer_sound (g.get i) _ _ s s' hq he hs hreg hentry haddr, hentry ▸ he⟩

/-- the check behind `goodFactsB` and `goodMemFactsB`, for either kind of map: `fin`, `fout` the
    in- and out-facts of a node, `tr` its transfer -/
theorem factsB_sound {κ : Type} [DecidableEq κ] (g : Cfg) (V : List Nat) (fin fout tr : CNode → AMap κ)
    (hdef : fin default = [] ∧ fout default = []) (hv : ∀ i, i ∈ V → i < g.nodes.size)
    (h : ((List.range g.nodes.size).all fun i =>
      keysNodup (fin (g.get i)) && keysNodup (fout (g.get i)) &&
      (!V.contains i ||
        (AMap.sameAs (fin (g.get i))
            (meetOver (((g.get i).prevs.filter V.contains).map fun p => fout (g.get p))) &&
         AMap.sameAs (fout (g.get i)) (tr (g.get i))))) = true) :
    (∀ i, AMap.WF (fin (g.get i))) ∧ (∀ i, AMap.WF (fout (g.get i))) ∧
    (∀ i, i ∈ V → ∀ k, AMap.get (fin (g.get i)) k =
      AMap.get (meetOver (((g.get i).prevs.filter V.contains).map fun p => fout (g.get p))) k) ∧
    (∀ i, i ∈ V → ∀ k, AMap.get (fout (g.get i)) k = AMap.get (tr (g.get i)) k) := by
  simp only [List.all_eq_true, List.mem_range, Bool.and_eq_true, Bool.or_eq_true, Bool.not_eq_true'] at h
  -- out-of-range indices carry the default (empty) facts
  have wf : ∀ (f : CNode → AMap κ), f default = [] → (∀ i, i < g.nodes.size → keysNodup (f (g.get i)) = true) →
      ∀ i, AMap.WF (f (g.get i)) := by
    intro f hf hk i
    by_cases hi : i < g.nodes.size
    · exact keysNodup_wf _ (hk i hi)
    · have : g.get i = default := by simp [Cfg.get, hi]
      rw [this, hf]; exact List.nodup_nil
  have eqs : ∀ i, i ∈ V → _ := fun i hi =>
    ((h i (hv i hi)).2.resolve_left (by simp [hi]))
  exact ⟨wf fin hdef.1 fun i hi => (h i hi).1.1, wf fout hdef.2 fun i hi => (h i hi).1.2,
    fun i hi => AMap.sameAs_get _ _ (eqs i hi).1, fun i hi => AMap.sameAs_get _ _ (eqs i hi).2⟩

/-- the hypothesis of `exec_sound` is decidable: `goodFactsB` (run by the driver on every
    generated program, stage `good`) implies `GoodFacts` -/
theorem goodFactsB_sound (g : Cfg) (V : List Nat) (hv : V.all (· < g.nodes.size) = true)
    (h : goodFactsB g V = true) : GoodFacts g V := by
  have hvlt : ∀ i, i ∈ V → i < g.nodes.size := by simpa using hv
  obtain ⟨h1, h2, h3, h4⟩ := factsB_sound g V (·.regIn) (·.regOut)
    (fun cn => nodeRegOut cn cn.regIn cn.memIn) ⟨rfl, rfl⟩ hvlt h
  exact ⟨h1, h2, hvlt, h3, h4⟩

end Rva
