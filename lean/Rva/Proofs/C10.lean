/-
  C10 — the final ordering step.

  `sortDiags_sorted`, `sortDiags_perm`: the model of `diags.sort()` returns the same items,
  sorted by (file, start, end). `sorted_unique` / `sortDiags_order_independent`: when no two
  items share a position the output does not depend on the order in which the passes produced
  them — so hash-table iteration inside the lint passes cannot reach the output except through
  ties (the stable sort keeps their production order: the residual dependence, probed by the
  repeated-run check) and through the two sites where a *location* is chosen by hash order
  (Appendix B of DESIGN.md; known findings F-14, F-28).
-/
import Rva.Model.Pipeline
namespace Rva

def Diag.key (d : Diag) : Nat × Nat × Nat := (d.frank, d.range.start.raw, d.range.stop.raw)

def keyLt (a b : Nat × Nat × Nat) : Prop :=
  a.1 < b.1 ∨ (a.1 = b.1 ∧ (a.2.1 < b.2.1 ∨ (a.2.1 = b.2.1 ∧ a.2.2 < b.2.2)))

theorem diagLt_iff (a b : Diag) : diagLt a b = true ↔ keyLt a.key b.key := by
  simp [diagLt, keyLt, Diag.key]

theorem keyLt_trichotomy (a b : Nat × Nat × Nat) : keyLt a b ∨ a = b ∨ keyLt b a := by
  simp only [keyLt, Prod.ext_iff]
  omega

theorem keyLt_trans {a b c : Nat × Nat × Nat} (h1 : keyLt a b) (h2 : keyLt b c) : keyLt a c := by
  unfold keyLt at *
  omega

theorem keyLt_irrefl (a : Nat × Nat × Nat) : ¬ keyLt a a := by
  simp [keyLt]

def Sorted (l : List Diag) : Prop := l.Pairwise fun a b => ¬ keyLt b.key a.key

theorem insertStable_perm (x : Diag) (l : List Diag) : (insertStable x l).Perm (x :: l) := by
  induction l with
  | nil => simp [insertStable]
  | cons y ys ih =>
    unfold insertStable
    split
    · exact List.Perm.refl _
    · exact (List.Perm.cons y ih).trans (List.Perm.swap x y ys)

theorem mem_insertStable (x y : Diag) (l : List Diag) : y ∈ insertStable x l ↔ y = x ∨ y ∈ l :=
  (insertStable_perm x l).mem_iff.trans List.mem_cons

theorem insertStable_sorted (x : Diag) (l : List Diag) (h : Sorted l) : Sorted (insertStable x l) := by
  induction l with
  | nil => exact List.pairwise_singleton _ _
  | cons y ys ih =>
    obtain ⟨hy, hys⟩ := List.pairwise_cons.mp h
    rw [insertStable]
    split
    · next hxy =>
      rw [diagLt_iff] at hxy
      refine List.pairwise_cons.mpr ⟨fun z hz hzx => ?_, h⟩
      have hzy := keyLt_trans hzx hxy
      rcases List.mem_cons.mp hz with rfl | hz
      · exact keyLt_irrefl _ hzy
      · exact hy z hz hzy
    · next hxy =>
      refine List.pairwise_cons.mpr ⟨fun z hz => ?_, ih hys⟩
      rcases (mem_insertStable x z ys).mp hz with rfl | hz
      · exact fun hc => hxy ((diagLt_iff _ _).mpr hc)
      · exact hy z hz

theorem sortDiags_eq (l : List Diag) : sortDiags l = l.reverse.foldr insertStable [] :=
  List.foldl_eq_foldr_reverse

/-- **C10.** The final list is sorted by (file, start, end). -/
theorem sortDiags_sorted (l : List Diag) : Sorted (sortDiags l) := by
  rw [sortDiags_eq]
  induction l.reverse with
  | nil => exact .nil
  | cons x r ih => exact insertStable_sorted x _ ih

/-- **C10.** Sorting neither loses nor duplicates an item. -/
theorem sortDiags_perm (l : List Diag) : (sortDiags l).Perm l := by
  rw [sortDiags_eq]
  refine .trans ?_ l.reverse_perm
  induction l.reverse with
  | nil => exact .nil
  | cons x r ih => exact (insertStable_perm x _).trans (ih.cons x)

theorem sortDiags_nil_iff (l : List Diag) : sortDiags l = [] ↔ l = [] := by
  rw [← List.length_eq_zero_iff, (sortDiags_perm l).length_eq, List.length_eq_zero_iff]

/-- **C10 (`sorted_unique`).** When no two items share a sort key, two sorted arrangements of the
    same items are equal: the order in which the passes (and the hash tables they iterate)
    produced the items cannot reach the output. -/
theorem sorted_unique (l1 l2 : List Diag) (h1 : Sorted l1) (h2 : Sorted l2) (hp : l1.Perm l2)
    (hk : (l1.map Diag.key).Nodup) : l1 = l2 := by
  have hne := List.pairwise_map.mp hk
  have inj : ∀ ⦃a⦄, a ∈ l1 → ∀ ⦃b⦄, b ∈ l1 → a.key = b.key → a = b :=
    List.Pairwise.forall_of_forall_of_flip (fun _ _ _ => rfl) (hne.imp fun h e => absurd e h)
      (hne.imp fun h e => absurd e.symm h)
  -- of two items neither of which sorts before the other the keys are equal
  exact hp.eq_of_pairwise (fun a b ha hb hab hba => inj ha (hp.symm.subset hb)
    (((keyLt_trichotomy a.key b.key).resolve_left hba).resolve_right hab)) h1 h2

/-- Corollary: any two input orders of the same items with pairwise different positions give
    the same final list. -/
theorem sortDiags_order_independent (l1 l2 : List Diag) (hp : l1.Perm l2)
    (hk : (l1.map Diag.key).Nodup) : sortDiags l1 = sortDiags l2 := by
  apply sorted_unique _ _ (sortDiags_sorted l1) (sortDiags_sorted l2)
  · exact (sortDiags_perm l1).trans (hp.trans (sortDiags_perm l2).symm)
  · exact ((sortDiags_perm l1).map Diag.key).nodup_iff.mpr hk

end Rva
