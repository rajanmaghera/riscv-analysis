/-
  C07 at the level of the parse loop — nothing collected is lost, and a bad line affects only itself.

  A turn of the loop only puts something in front of what was collected (`parseLoop_turn`), so the
  accumulators play no part in what is collected next (`parseLoop_acc`): nothing is dropped or
  reordered later. With the frame rule (`parseStep_local`, C15b) and the location of parse errors
  (`parseStep_error_in_items`, C07c): a line whose statement fails - not a data directive or a macro
  definition, not running into the end of its line - costs exactly one recorded error, and the loop
  goes on with the first item of the next line, in the state it would be in if the line were not
  there (`malformed_line_contained`).
-/
import Rva.Proofs.C07c
import Rva.Proofs.C06b
import Rva.Proofs.C15b
namespace Rva

def ParseOut.shift (nodes : List Node) (errs : List ParseErr) (o : ParseOut) : ParseOut :=
  ⟨nodes.reverse ++ o.nodes, errs.reverse ++ o.errors, o.reader⟩

/-- **C07 (`parseLoop_acc`).** What the parse loop has collected so far plays no part in what it
    collects next: the result from any accumulators is the result from empty ones with the
    accumulated nodes and errors in front. -/
theorem parseLoop_acc (fuel : Nat) : ∀ (st : List (List PItem)) (r : Reader) (nodes : List Node)
    (errs : List ParseErr),
    parseLoop fuel st r nodes errs = ParseOut.shift nodes errs (parseLoop fuel st r [] []) := by
  induction fuel with
  | zero => intro st r nodes errs; simp [parseLoop, ParseOut.shift]
  | succ n ih =>
    intro st r nodes errs
    cases st with
    | nil => simp [parseLoop, ParseOut.shift]
    | cons top below =>
      -- a turn only ever puts something in front of the accumulators
      obtain ⟨st', r', dn, de, _, h⟩ := parseLoop_turn top below r
      rw [h, h, ih, ih st' r' (dn ++ [])]
      simp [ParseOut.shift]

/-- **C07 (`parseLoop_keeps`).** What the parse loop has collected is never dropped or reordered
    later: the nodes and the parse errors collected so far are a prefix of those of the final
    result. -/
theorem parseLoop_keeps (fuel : Nat) : ∀ (stack : List (List PItem)) (r : Reader) (nodes : List Node)
    (errs : List ParseErr),
    nodes.reverse <+: (parseLoop fuel stack r nodes errs).nodes ∧
    errs.reverse <+: (parseLoop fuel stack r nodes errs).errors := by
  intro stack r nodes errs
  rw [parseLoop_acc]
  exact ⟨List.prefix_append _ _, List.prefix_append _ _⟩

/-- **C07 (`failed_statement_reported`).** A statement that fails with an error of a reportable
    kind is in the final list of parse errors, whatever the rest of the input does: with
    `parseStep_error_located`, every failed statement is named by a parse error located on one of
    the items it consumed (or the first one it refused). -/
theorem failed_statement_reported (fuel : Nat) (top : List PItem) (below : List (List PItem)) (r : Reader)
    (nodes : List Node) (errs : List ParseErr) (e : LexErr) (rest : List PItem) (pe : ParseErr)
    (h : parseStep top = (.error e, rest)) (hpe : e.reported = some pe) :
    pe ∈ (parseLoop (fuel + 1) (top :: below) r nodes errs).errors := by
  have hne : (parseStep top).1 ≠ .error .unexpectedEOF := by
    rw [h]; rintro ⟨⟩; cases hpe
  rw [parseLoop_plain hne (by rw [h]; intro x hx; cases hx), h]
  refine (parseLoop_keeps _ _ _ _ _).2.subset ?_
  simp [stmtErrs, hpe]

/-- **C07 (`later_lines_unaffected`).** Lines whose statements the frame rule covers (`SepAll bad` -
    for instance a malformed line that ends at its newline) contribute their own nodes and errors
    and nothing else: whatever stands behind them (`post`) is parsed exactly as it is parsed
    without them - the result on the right is that of parsing `post` alone, from the same reader -
    and what the lines themselves contribute (`nodes'`, `errs'`) does not depend on `post`. -/
theorem later_lines_unaffected (bad : List PItem) (hs : SepAll bad) (r : Reader) (nodes : List Node)
    (errs : List ParseErr) :
    ∃ k nodes' errs', ∀ (post : List PItem) (below : List (List PItem)) (fuel : Nat),
      parseLoop (fuel + k) ((bad ++ post) :: below) r nodes errs =
        ParseOut.shift nodes' errs' (parseLoop fuel (post :: below) r [] []) := by
  obtain ⟨k, dn, de, h⟩ := parseLoop_sepAll hs
  exact ⟨k, dn ++ nodes, de ++ errs, fun post below fuel => by rw [h, parseLoop_acc]⟩

def NoNewline (l : List PItem) : Prop := ∀ it ∈ l, it.ftok.kind ≠ .newline

theorem NoNewline.suffix {l l' : List PItem} (h : NoNewline l) (hs : l' <:+ l) : NoNewline l' :=
  fun it hit => h it (hs.subset hit)

theorem NoNewline.isNewline {l : List PItem} (h : NoNewline l) : ∀ x ∈ l, x.isNewline = false := by
  intro x hx
  have := h x hx
  cases x <;> simp_all [PItem.isNewline, PItem.ftok]

theorem recover_to_newline (rem : List PItem) (nl : FTok) (hnl : nl.kind = .newline) (rest : List PItem)
    (h : NoNewline rem) : recover (rem ++ .tok nl :: rest) = rest :=
  recover_spec rem rest nl hnl h.isNewline

theorem LexErr.of_reported {e : LexErr} {pe : ParseErr} (h : e.reported = some pe)
    (ht : ∀ t ∈ e.toks, t.kind ≠ .newline) : e.recovers = true ∧ stmtNodes (.error e) = [] := by
  cases e <;> simp_all [LexErr.reported, LexErr.recovers, LexErr.toks, stmtNodes]

/-- **C07 (`malformed_line_contained`).** A line `bad` (no newline among its items; not a data
    directive or macro definition) whose statement fails with a reportable error without running into
    the end of the line, followed by its newline and the rest of the file: one step of the parse loop
    records exactly that one error and continues with the first item after the newline - the stack of
    including files, the reader, the nodes and the earlier errors are untouched. With `parseLoop_acc`
    the final result is the result for the file without the line, plus that error. -/
theorem malformed_line_contained (bad : List PItem) (hp : PlainHead bad) (hnn : NoNewline bad)
    (e : LexErr) (rem : List PItem) (pe : ParseErr)
    (h : parseStep bad = (.error e, rem)) (hne : e ≠ .unexpectedEOF) (hpe : e.reported = some pe)
    (nl : FTok) (hnl : nl.kind = .newline) (fuel : Nat) (rest : List PItem)
    (below : List (List PItem)) (r : Reader) (nodes : List Node) (errs : List ParseErr) :
    parseLoop (fuel + 1) ((bad ++ .tok nl :: rest) :: below) r nodes errs =
      parseLoop fuel (rest :: below) r nodes (pe :: errs) := by
  have hne' : (.error e : Except LexErr Node) ≠ .error .unexpectedEOF := fun hc => hne (by injection hc)
  have hl := parseStep_local bad (.tok nl :: rest) hp (by rw [h]; exact hne')
  rw [h] at hl
  have hsuf : rem <:+ bad := by have := parseStep_suffix bad; rwa [h] at this
  -- the error is located on an item of the line (`parseStep_error_in_items`), so not on a newline
  obtain ⟨hr, hn⟩ := LexErr.of_reported hpe fun t ht => by
    obtain ⟨it, hit, rfl⟩ := parseStep_error_in_items bad e (by rw [h]) t ht
    exact hnn it hit
  rw [parseLoop_plain (by rw [hl]; exact hne') (by rw [hl]; intro x hx; cases hx), nextTop_error hl, hl]
  simp only [hr, hn, stmtErrs, hpe, if_true, recover_to_newline rem nl hnl rest (hnn.suffix hsuf)]
  rfl

/-- **C07 (`malformed_line_only_adds_its_error`).** The same as a statement about results: parsing the
    file with the malformed line gives the nodes of the file without it and the errors of the file
    without it with the one error of that line put in at its place - nothing else differs. -/
theorem malformed_line_only_adds_its_error (bad : List PItem) (hp : PlainHead bad) (hnn : NoNewline bad)
    (e : LexErr) (rem : List PItem) (pe : ParseErr)
    (h : parseStep bad = (.error e, rem)) (hne : e ≠ .unexpectedEOF) (hpe : e.reported = some pe)
    (nl : FTok) (hnl : nl.kind = .newline) (fuel : Nat) (rest : List PItem)
    (below : List (List PItem)) (r : Reader) (nodes : List Node) (errs : List ParseErr) :
    let without := parseLoop fuel (rest :: below) r [] []
    parseLoop (fuel + 1) ((bad ++ .tok nl :: rest) :: below) r nodes errs =
      ⟨nodes.reverse ++ without.nodes, errs.reverse ++ pe :: without.errors, without.reader⟩ := by
  intro without
  rw [malformed_line_contained bad hp hnn e rem pe h hne hpe nl hnl, parseLoop_acc]
  simp [ParseOut.shift, without]

/-! non-vacuity: the line `foo` (no such instruction) meets the hypotheses -/
def fooTok : FTok := { kind := .symbol, payload := "foo", text := "foo", range := ⟨⟨0, 0, 0⟩, ⟨0, 2, 2⟩⟩, file := 0 }
theorem parseStep_foo : parseStep [.tok fooTok] = (.error (.expected ["INSTRUCTION"] fooTok), []) := by rfl
example : (LexErr.expected ["INSTRUCTION"] fooTok).reported = some (.expected ["INSTRUCTION"] fooTok) := rfl
example : NoNewline [.tok fooTok] := by unfold NoNewline; decide
example : PlainHead [.tok fooTok] := plainHead_tok _ (by simp [fooTok])

end Rva
