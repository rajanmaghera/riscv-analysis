/-
  C09 at the parser level — the text range a statement accumulates.

  `Tracked m`: running the parser computation `m` consumes a prefix of the items, and the raw
  token (text, range, file) it has accumulated afterwards is the one obtained by folding the
  consumed items into the raw token it started with (`rawAfter`): nothing else ever touches it.
  For a statement that starts with a fresh accumulator and consumes tokens `t1 … tn`, the
  accumulated range therefore runs from the start of `t1` to the end of `tn`
  (`rawAfter_range`): "mnemonic through last operand". `EndsRaw m`: the node a successful `m`
  returns carries the raw token as accumulated at that point (every statement ends in a node built
  around `rawNow`: `Stmt.done`); so the location of a parsed statement is what its consumed items
  accumulate (`parseStep_node_range`).
-/
import Rva.Proofs.ParserInv
namespace Rva

def rawAfter (raw : RawTok) (l : List PItem) : RawTok := l.foldl rawStep raw

def Tracked {α} (m : P α) : Prop :=
  ∀ s : PState, ∃ c, s.items = c ++ (runP m s).2.items ∧ (runP m s).2.raw = rawAfter s.raw c

theorem tracked_nil {α} {m : P α} {s : PState} {r : Except LexErr α} (h : runP m s = (r, s)) :
    ∃ c, s.items = c ++ (runP m s).2.items ∧ (runP m s).2.raw = rawAfter s.raw c :=
  ⟨[], by rw [h]; rfl, by rw [h]; rfl⟩

theorem Built.tracked {L : Prop} {α} {K : List FTok} {tk : α → List FTok} {m : P α} (h : Built L K tk m) :
    Tracked m := by
  induction h with
  | pure | throw | rawNow | get => exact fun _ => tracked_nil rfl
  | @bind _ _ _ _ _ m _ _ _ hm hf =>
    intro s
    obtain ⟨c1, h1, r1⟩ := hm s
    rw [runP_bind]
    generalize runP m s = r at h1 r1 ⊢
    rcases r with ⟨_ | a, s'⟩
    · exact ⟨c1, h1, r1⟩
    · obtain ⟨c2, h2, r2⟩ := hf a s'
      exact ⟨c1 ++ c2, by rw [h1, h2]; simp, by rw [r2, r1]; simp [rawAfter]⟩
  | getAny =>
    intro s
    rw [runP_getAny]
    split
    · exact ⟨[], by simp_all, rfl⟩
    all_goals next heq => exact ⟨[_], heq, rfl⟩
  | peekAny => exact fun s => tracked_nil (runP_peekAny s)
  | dropBad =>
    intro s
    rw [runP_dropBad]
    split
    · next t k p rest heq => exact ⟨[.strErr t k p], by simp [heq], rfl⟩
    · next t rest heq => exact ⟨[.unexpected t], by simp [heq], rfl⟩
    · exact ⟨[], rfl, rfl⟩

theorem parseNode_tracked : Tracked parseNode := parseNode_stmt.built.tracked

def EndsRaw (m : P Node) : Prop := ∀ s n s', runP m s = (.ok n, s') → n.tok = s'.raw

theorem endsRaw_rawNow {f : RawTok → P Node}
    (hf : ∀ raw s n s', runP (f raw) s = (.ok n, s') → s' = s ∧ n.tok = raw) :
    EndsRaw (rawNow >>= f) := by
  intro s n s' h
  rw [runP_bind, runP_rawNow] at h
  obtain ⟨rfl, h⟩ := hf _ _ _ _ h
  exact h

theorem Stmt.endsRaw {L : Prop} {K : List FTok} {m : P Node} (h : Stmt L K m) : EndsRaw m := by
  induction h with
  | throw => exact fun _ _ _ h => nomatch h
  | done hg => exact endsRaw_rawNow fun raw _ _ _ h => by cases h; exact ⟨rfl, hg raw⟩
  | @bind _ _ _ m _ _ _ ih =>
    intro s n s' h
    rw [runP_bind] at h
    generalize runP m s = r at h
    rcases r with ⟨_ | a, s1⟩
    · cases h
    · exact ih a s1 n s' h

theorem pseudoRR_tok (sub : String) (m : FTok) (rd rs1 : W Reg) (raw : RawTok) (n : Node)
    (h : pseudoRR sub m rd rs1 raw = some n) : n.tok = raw := by
  unfold pseudoRR at h
  split at h <;> first | (injection h with h; subst h; rfl) | (simp at h)

theorem endsRaw_pseudoRR (sub : String) (m : FTok) (rd rs1 : W Reg) (e : LexErr) :
    EndsRaw (rawNow >>= fun raw => match pseudoRR sub m rd rs1 raw with
      | some n => pure n
      | none => throw e) :=
  endsRaw_rawNow fun raw _ _ _ h => by
    split at h
    · next hp => cases h; exact ⟨rfl, pseudoRR_tok _ _ _ _ _ _ hp⟩
    · cases h

theorem parseNode_endsRaw : EndsRaw parseNode := parseNode_stmt.endsRaw

def lastStop (d : Pos) (l : List PItem) : Pos :=
  l.foldl (fun acc it => match it with | .tok t => t.range.stop | _ => acc) d

theorem rawStep_nondefault (raw : RawTok) (h : raw ≠ RawTok.default) (it : PItem) :
    rawStep raw it ≠ RawTok.default ∧ (rawStep raw it).range.start = raw.range.start ∧
    (rawStep raw it).file = raw.file ∧
    (rawStep raw it).range.stop = (match it with | .tok t => t.range.stop | _ => raw.range.stop) := by
  cases it with
  | tok t =>
    have hb : (raw == RawTok.default) = false := by simpa using h
    simp only [rawStep, hb, Bool.false_eq_true, if_false]
    refine ⟨?_, trivial, trivial, trivial⟩
    intro hd
    simpa [RawTok.default] using congrArg RawTok.text hd
  | strErr t k p => exact ⟨h, rfl, rfl, rfl⟩
  | unexpected t => exact ⟨h, rfl, rfl, rfl⟩

theorem rawAfter_nondefault (l : List PItem) : ∀ (raw : RawTok), raw ≠ RawTok.default →
    rawAfter raw l ≠ RawTok.default ∧ (rawAfter raw l).range.start = raw.range.start ∧
    (rawAfter raw l).file = raw.file ∧ (rawAfter raw l).range.stop = lastStop raw.range.stop l := by
  induction l with
  | nil => intro raw h; exact ⟨h, rfl, rfl, rfl⟩
  | cons it rest ih =>
    intro raw h
    obtain ⟨h1, h2, h3, h4⟩ := rawStep_nondefault raw h it
    obtain ⟨i1, i2, i3, i4⟩ := ih (rawStep raw it) h1
    simp only [rawAfter, List.foldl_cons] at *
    refine ⟨i1, i2.trans h2, i3.trans h3, ?_⟩
    rw [i4, h4]
    simp only [lastStop, List.foldl_cons]

/-- **C09 (`rawAfter_range`).** Starting from a fresh accumulator, consuming the token `t1` and then
    the items `rest` leaves a raw token in `t1`'s file whose range starts where `t1` starts and
    ends where the last consumed token ends. `h`: like the source, `rawStep` recognises a fresh
    accumulator by comparing with the default value, so `t1` must not look like it (a token with
    text does not). -/
theorem rawAfter_range (t1 : FTok) (rest : List PItem) (h : t1.raw ≠ RawTok.default) :
    (rawAfter RawTok.default (.tok t1 :: rest)).range.start = t1.range.start ∧
    (rawAfter RawTok.default (.tok t1 :: rest)).file = t1.file ∧
    (rawAfter RawTok.default (.tok t1 :: rest)).range.stop = lastStop t1.range.stop rest := by
  have e : rawAfter RawTok.default (.tok t1 :: rest) = rawAfter t1.raw rest := by
    simp [rawAfter, rawStep]
  rw [e]
  obtain ⟨_, h2, h3, h4⟩ := rawAfter_nondefault rest t1.raw h
  exact ⟨h2, h3, h4⟩

/-- **C09 (`parseStep_node_range`).** The node a successful statement parse returns carries as its
    location exactly what the consumed items accumulate from a fresh accumulator: the statement's
    text from its first token (the mnemonic, label or directive name) through its last operand. -/
theorem parseStep_node_range (items : List PItem) (n : Node) (rest : List PItem)
    (h : parseStep items = (.ok n, rest)) :
    ∃ c, items = c ++ rest ∧ n.tok = rawAfter RawTok.default c := by
  obtain ⟨c, hc, hraw⟩ := parseNode_tracked { items := items }
  rw [parseStep_eq, Prod.mk.injEq] at h
  exact ⟨c, h.2 ▸ hc, (parseNode_endsRaw _ _ _ (Prod.ext h.1 rfl)).trans hraw⟩

end Rva
