/-
  C04 — when is the report empty? Exactly when each of the eleven passes reports nothing
  (`runLints_nil_iff`), and a pass is silent iff no node of the finished graph meets its
  condition: shown here for the three passes that depend on no fixpoint, in C05b and C04b for
  the other eight; `lints_silent_iff` (C04b) puts the eleven together.
  What is NOT proved is the induction over the conforming family: that the facts of every
  conforming program meet the eleven conditions (`C04_conforming_clean` below is the full
  statement, kept as a definition); that is checked on the real code over the
  conforming-by-construction generator whose grammar is the family.
-/
import Rva.Proofs.C05
import Rva.Proofs.C10
namespace Rva

theorem runLints_nil_iff (g : Cfg) :
    runLints g = [] ↔
      lintSaveToZero g = [] ∧ lintDeadValue g = [] ∧ lintInstructionInText g = [] ∧ lintEcall g = [] ∧
      lintControlFlow g = [] ∧ lintGarbageInput g = [] ∧ lintStack g = [] ∧ lintCalleeSaved g = [] ∧
      lintCalleeSavedGarbageRead g = [] ∧ lintLostCalleeSaved g = [] ∧ lintOverlapping g = [] := by
  simp only [runLints, List.append_eq_nil_iff, and_assoc]

theorem saveToZero_silent (g : Cfg) :
    lintSaveToZero g = [] ↔
      ∀ cn ∈ g.nodes.toList, ∀ rd, cn.node.writesTo = some rd → rd.val = 0 →
        cn.node.canSkipSaveChecks = true ∨ cn.node.isNop = true := by
  rw [nil_iff_of_mem_iff fun _ => mem_lintSaveToZero]
  simp [Decidable.or_iff_not_imp_left]

theorem invalidSegment_silent (g : Cfg) :
    lintInstructionInText g = [] ↔ ∀ cn ∈ g.nodes.toList, cn.node.isInstruction = true → cn.isText = true := by
  simp [lintInstructionInText]

theorem unknownEcall_silent (g : Cfg) :
    lintEcall g = [] ↔ ∀ cn ∈ g.nodes.toList, cn.node.isEcall = true → (knownEcall cn).isSome = true := by
  simp [lintEcall, Option.isSome_iff_ne_none]

/-- The whole run reports nothing exactly when: no parse error, and either the graph builds (no
    undefined label, no unexpected node) and none of the eleven passes reports, or the model ran out
    of fuel (`.hang`, which produces no item). -/
theorem run_clean_iff (desc : Bool) (files : List (String × String)) (base : String) :
    (runAll desc files base).1 = [] ↔
      (parseFiles files base).errors = [] ∧
      ((∃ g, genFullCfg desc (parseFiles files base).nodes = .ok g ∧ runLints g = []) ∨
       (∃ s, genFullCfg desc (parseFiles files base).nodes = .error (.hang s))) := by
  unfold runAll
  simp only
  split <;> rename_i hg <;> simp [sortDiags_nil_iff, hg]

/-- The full statement of C04 for a family `Conforming` of programs with a rendering to source
    files: kept visible, not proved (see header). -/
def C04_conforming_clean (Conforming : Type) (render : Conforming → List (String × String)) : Prop :=
  ∀ p : Conforming, (runAll false (render p) ((render p).head!.1)).1 = []

end Rva
