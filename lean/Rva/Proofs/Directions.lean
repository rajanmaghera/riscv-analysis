/-
  The direction pass (`directions`). `Adds g g' R c` says that `g'` is `g` with the edges `R` put
  into the successor and the predecessor lists alike, node `a` gaining at most `c a` successors;
  one `addEdge` is such a step, and such steps compose. The loop invariant `DirSpec` is an `Adds`
  from the start graph, `directions_spec` is the result for an arbitrary start graph: the pass adds
  exactly the edges `DirEdge`, at most two successors per node. `directions_symm`,
  `directions_rnn`, `directions_edges` (and `directions_outSmall` in C11d) are read off it.
-/
import Rva.Proofs.C03
namespace Rva

def SameNodes (g0 g : Cfg) : Prop :=
  g.nodes.size = g0.nodes.size ∧ ∀ y, (g.get y).labels = (g0.get y).labels ∧ (g.get y).node = (g0.get y).node

/-- `a → b` is a fall-through or the jump written in instruction `a` (in the graph as built) -/
def DirEdge (g0 : Cfg) (a b : Nat) : Prop :=
  (a + 1 = b ∧ b < g0.nodes.size ∧
      ((g0.get a).node.isReturn || (g0.get a).node.isUnconditionalJump) = false) ∨
  (a < g0.nodes.size ∧ ∃ l, (g0.get a).node.jumpsTo = some l ∧ findLabel g0 l.val = some b)

theorem SameNodes.refl (g : Cfg) : SameNodes g g := ⟨rfl, fun _ => ⟨rfl, rfl⟩⟩

theorem SameNodes.trans {a b c : Cfg} (h1 : SameNodes a b) (h2 : SameNodes b c) : SameNodes a c :=
  ⟨h2.1.trans h1.1, fun y => ⟨(h2.2 y).1.trans (h1.2 y).1, (h2.2 y).2.trans (h1.2 y).2⟩⟩

theorem sameNodes_addEdge (g : Cfg) (a b : Nat) : SameNodes g (g.addEdge a b) :=
  ⟨g.addEdge_size a b, fun y => by rw [Cfg.addEdge_get]; exact ⟨rfl, rfl⟩⟩

theorem findLabel_sameNodes (g0 g : Cfg) (h : SameNodes g0 g) (l : String) : findLabel g l = findLabel g0 l := by
  unfold findLabel
  rw [h.1]
  congr 1
  funext i
  rw [(h.2 i).1]

theorem findLabel_addEdge (g : Cfg) (a b : Nat) (l : String) : findLabel (g.addEdge a b) l = findLabel g l :=
  findLabel_sameNodes g _ (sameNodes_addEdge g a b) l

theorem findLabel_lt (g : Cfg) (l : String) (j : Nat) (h : findLabel g l = some j) : j < g.nodes.size := by
  simpa using List.mem_of_find?_eq_some h

theorem jumpsTo_not_return (n : Node) (l : W String) (h : n.jumpsTo = some l) : n.isReturn = false := by
  cases n <;> simp [Node.jumpsTo] at h <;> rfl

structure Adds (g g' : Cfg) (R : Nat → Nat → Prop) (c : Nat → Nat) : Prop where
  same : SameNodes g g'
  nexts : ∀ a b, b ∈ (g'.get a).nexts ↔ b ∈ (g.get a).nexts ∨ R a b
  prevs : ∀ a b, a ∈ (g'.get b).prevs ↔ a ∈ (g.get b).prevs ∨ R a b
  len : ∀ a, (g'.get a).nexts.length ≤ (g.get a).nexts.length + c a

theorem Adds.refl (g : Cfg) {R c} (hR : ∀ a b, ¬ R a b) : Adds g g R c :=
  ⟨.refl g, by simp [hR], by simp [hR], fun _ => Nat.le_add_right _ _⟩

theorem Adds.trans {g g' g'' : Cfg} {R R' c c'} (h : Adds g g' R c) (h' : Adds g' g'' R' c') :
    Adds g g'' (fun a b => R a b ∨ R' a b) (fun a => c a + c' a) :=
  ⟨h.same.trans h'.same, fun a b => by rw [h'.nexts, h.nexts, or_assoc],
    fun a b => by rw [h'.prevs, h.prevs, or_assoc],
    fun a => by have := h.len a; have := h'.len a; omega⟩

theorem Adds.congr {g g' : Cfg} {R R' c c'} (h : Adds g g' R c) (hR : ∀ a b, R a b ↔ R' a b)
    (hc : ∀ a, c a ≤ c' a) : Adds g g' R' c' :=
  ⟨h.same, fun a b => by rw [h.nexts, hR], fun a b => by rw [h.prevs, hR],
    fun a => Nat.le_trans (h.len a) (Nat.add_le_add_left (hc a) _)⟩

theorem Adds.addEdge (g : Cfg) (a b : Nat) (ha : a < g.nodes.size) (hb : b < g.nodes.size) :
    Adds g (g.addEdge a b) (fun x y => x = a ∧ y = b) (fun x => if x = a then 1 else 0) := by
  refine ⟨sameNodes_addEdge g a b, fun x y => ?_, fun x y => ?_, fun x => ?_⟩ <;> rw [Cfg.addEdge_get]
  · by_cases h : x = a <;> simp [h, ha, mem_insNat, or_comm]
  · by_cases h : y = b <;> simp [h, hb, mem_insNat, or_comm]
  · simp only [ha, and_true]
    split
    · exact insNat_length_le b _
    · exact Nat.le_refl _

theorem Adds.symm {g g' : Cfg} {R c} (h : Adds g g' R c) (hs : Symm g) : Symm g' := by
  intro a b; rw [h.nexts, h.prevs, hs a b]

theorem addEdge_symm (g : Cfg) (a b : Nat) (ha : a < g.nodes.size) (hb : b < g.nodes.size)
    (h : Symm g) : Symm (g.addEdge a b) :=
  (Adds.addEdge g a b ha hb).symm h

def JumpsTo (g : Cfg) (k b : Nat) : Prop :=
  ∃ l, (g.get k).node.jumpsTo = some l ∧ findLabel g l.val = some b

def Falls (g : Cfg) (a : Nat) : Prop :=
  ((g.get a).node.isReturn || (g.get a).node.isUnconditionalJump) = false

/-- the edges iteration `i` adds: the jump written in instruction `i`, and the fall-through into
    `i` from the instruction before it -/
def StepEdge (g0 : Cfg) (i a b : Nat) : Prop :=
  (a = i ∧ JumpsTo g0 i b) ∨ ((a + 1 = i ∧ Falls g0 a) ∧ b = i)

theorem dirEdge_iff (g : Cfg) (a b : Nat) : DirEdge g a b ↔ ∃ i, i < g.nodes.size ∧ StepEdge g i a b := by
  constructor
  · rintro (⟨h1, h2, h3⟩ | ⟨h1, h2⟩)
    · exact ⟨b, h2, .inr ⟨⟨h1, h3⟩, rfl⟩⟩
    · exact ⟨a, h1, .inl ⟨rfl, h2⟩⟩
  · rintro ⟨i, hi, ⟨rfl, h⟩ | ⟨⟨h1, h2⟩, rfl⟩⟩
    · exact .inr ⟨hi, h⟩
    · exact .inl ⟨h1, hi, h2⟩

structure DirSpec (g0 : Cfg) (k : Nat) (st : Cfg × Option Nat) : Prop where
  -- node `a` gets its jump edge in iteration `a` and its fall-through edge in iteration `a + 1`
  adds : Adds g0 st.1 (fun a b => ∃ i, i < k ∧ StepEdge g0 i a b) (fun a => min 2 (k - a))
  prev : ∀ p, st.2 = some p ↔ p + 1 = k ∧ Falls g0 p

theorem dirStep_spec (g0 : Cfg) (k : Nat) (hk : k < g0.nodes.size) (st st' : Cfg × Option Nat)
    (h : DirSpec g0 k st) (hs : dirStep st k = .ok st') : DirSpec g0 (k + 1) st' := by
  obtain ⟨g, po⟩ := st
  have hsz : g.nodes.size = g0.nodes.size := h.adds.same.1
  unfold dirStep at hs
  -- the step reads instruction and labels from `g`, which has those of `g0`
  simp only [(h.adds.same.2 k).2, findLabel_sameNodes g0 g h.adds.same] at hs
  split at hs
  · exact absurd hs (by simp)
  · rename_i g1 h1
    have jump : Adds g g1 (fun a b => a = k ∧ JumpsTo g0 k b) (fun a => if a = k then 1 else 0) := by
      unfold JumpsTo
      split at h1
      · rename_i l hl
        split at h1
        · rename_i j hj
          injection h1 with h1; subst h1
          exact (Adds.addEdge g k j (by omega) (by rw [hsz]; exact findLabel_lt _ _ _ hj)).congr
            (fun a b => by simp [hl, hj, eq_comm]) (fun _ => Nat.le_refl _)
        · exact absurd h1 (by simp)
      · rename_i hl
        injection h1 with h1; subst h1
        exact Adds.refl g fun a b => by simp [hl]
    have fall : Adds g1 st'.1 (fun a b => po = some a ∧ b = k) (fun a => if a + 1 = k then 1 else 0) := by
      injection hs with hs; subst hs
      cases po with
      | none => exact Adds.refl g1 (by simp)
      | some p =>
        have hp : p + 1 = k := ((h.prev p).1 rfl).1
        exact (Adds.addEdge g1 p k (by rw [jump.same.1]; omega) (by rw [jump.same.1]; omega)).congr
          (fun a b => by simp [eq_comm]) (fun a => by split <;> split <;> omega)
    refine ⟨((h.adds.trans jump).trans fall).congr (fun a b => ?_) (fun a => ?_), fun q => ?_⟩
    · rw [Nat.exists_lt_succ_right, h.prev, or_assoc]; rfl
    · split <;> split <;> omega
    · injection hs with hs; subst hs
      show (if _ then none else some k) = some q ↔ _
      rw [Nat.add_right_cancel_iff]
      unfold Falls
      by_cases hq : q = k
      · subst hq; cases ((g0.get q).node.isReturn || (g0.get q).node.isUnconditionalJump) <;> simp
      · split <;> simp [hq, Ne.symm hq]

theorem dirStep_error (st : Cfg × Option Nat) (i : Nat) (e : CfgErr) (h : dirStep st i = .error e) :
    e = .unexpectedError ∧ ∃ l, (st.1.get i).node.jumpsTo = some l ∧ findLabel st.1 l.val = none := by
  unfold dirStep at h
  simp only [] at h
  cases hj : (st.1.get i).node.jumpsTo with
  | none => simp [hj] at h
  | some l =>
    cases hf : findLabel st.1 l.val with
    | some j => simp [hj, hf] at h
    | none =>
      simp only [hj, hf] at h
      injection h with h
      exact ⟨h.symm, l, rfl, hf⟩

theorem dirLoop_spec (g0 : Cfg) (m : Nat) : ∀ (k : Nat) (st : Cfg × Option Nat),
    k + m ≤ g0.nodes.size → DirSpec g0 k st →
    match dirLoop (List.range' k m) st with
    | .ok st' => DirSpec g0 (k + m) st'
    | .error e => ∃ i st', i < g0.nodes.size ∧ DirSpec g0 i st' ∧ dirStep st' i = .error e := by
  induction m with
  | zero => intro k st _ h; exact h
  | succ m ih =>
    intro k st hle h
    rw [List.range'_succ]
    unfold dirLoop
    cases hd : dirStep st k with
    | error e => exact ⟨k, st, by omega, h, hd⟩
    | ok st1 =>
      have := ih (k + 1) st1 (by omega) (dirStep_spec g0 k (by omega) st st1 h hd)
      rwa [show k + 1 + m = k + (m + 1) by omega] at this

theorem directions_loop (g : Cfg) :
    match directions g with
    | .ok g' => ∃ po, DirSpec g g.nodes.size (g', po)
    | .error e => ∃ i st', i < g.nodes.size ∧ DirSpec g i st' ∧ dirStep st' i = .error e := by
  have := dirLoop_spec g g.nodes.size 0 (g, none) (by omega)
    ⟨Adds.refl g (by simp), by simp⟩
  rw [Nat.zero_add, ← List.range_eq_range'] at this
  unfold directions
  generalize dirLoop (List.range g.nodes.size) (g, none) = r at this
  cases r with
  | ok st => exact ⟨st.2, this⟩
  | error e => exact this

theorem directions_spec (g g' : Cfg) (hd : directions g = .ok g') : Adds g g' (DirEdge g) (fun _ => 2) := by
  have := directions_loop g
  rw [hd] at this
  obtain ⟨_, h⟩ := this
  exact h.adds.congr (fun a b => (dirEdge_iff g a b).symm) (fun _ => Nat.min_le_left _ _)

/-- **C16 (`directions_error`).** The direction pass can only fail with the generic error, and
    only because some instruction jumps to a label that is attached to no instruction. -/
theorem directions_error (g : Cfg) (e : CfgErr) (h : directions g = .error e) :
    e = .unexpectedError ∧
      ∃ i, i < g.nodes.size ∧ ∃ lab, (g.get i).node.jumpsTo = some lab ∧ findLabel g lab.val = none := by
  have := directions_loop g
  rw [h] at this
  obtain ⟨i, st, hi, hst, herr⟩ := this
  obtain ⟨h1, l, h2, h3⟩ := dirStep_error st i e herr
  rw [(hst.adds.same.2 i).2] at h2
  rw [findLabel_sameNodes g st.1 hst.adds.same] at h3
  exact ⟨h1, i, hi, l, h2, h3⟩

/-- **C03.** After `NodeDirectionPass` the successor and predecessor relations are exact
    inverses (given a graph without edges, as `Cfg::new` builds it, or any symmetric graph). -/
theorem directions_symm (g g' : Cfg) (h : Symm g) (hd : directions g = .ok g') : Symm g' :=
  (directions_spec g g' hd).symm h

theorem DirEdge.not_return {g : Cfg} {a b : Nat} (h : DirEdge g a b) : (g.get a).node.isReturn = false := by
  rcases h with ⟨_, _, h⟩ | ⟨_, l, h, _⟩
  · simp only [Bool.or_eq_false_iff] at h; exact h.1
  · exact jumpsTo_not_return _ l h

/-- the direction pass never gives a return instruction a successor -/
theorem directions_rnn (g g' : Cfg) (h : RetNoNext g) (hd : directions g = .ok g') : RetNoNext g' := by
  have s := directions_spec g g' hd
  intro a ha
  rw [(s.same.2 a).2] at ha
  refine List.eq_nil_iff_forall_not_mem.mpr fun b hb => ?_
  rcases (s.nexts a b).1 hb with hb | hb
  · rw [h a ha] at hb; exact absurd hb List.not_mem_nil
  · rw [hb.not_return] at ha; exact absurd ha (by simp)

/-- **C03 (`directions_edges`).** On a graph without edges, the direction pass creates exactly
    the fall-through edges and the jump edges written in the instructions. -/
theorem directions_edges (g0 g1 : Cfg) (hno : ∀ i, (g0.get i).nexts = [] ∧ (g0.get i).prevs = [])
    (hd : directions g0 = .ok g1) :
    SameNodes g0 g1 ∧ ∀ a b, b ∈ (g1.get a).nexts ↔ DirEdge g0 a b := by
  have s := directions_spec g0 g1 hd
  exact ⟨s.same, fun a b => by rw [s.nexts, (hno a).1]; simp⟩

end Rva
