/-
  C16 — where the generic, unlocated failure can come from. The direction pass fails only with
  `UnexpectedError`, and only when some instruction jumps to a label that no instruction node
  carries (a label at the very end of a file or in front of data only — recorded finding F-18b;
  `directions_error`, in Directions). The markup pass fails only with `UnexpectedError`, and only
  at a function entry whose walk finds no return (finding F-18a; `markStep_error`). With
  `buildCfg_total` (C16) these are all the ways graph generation can fail
  (`pipeline_failure_sources`).
-/
import Rva.Proofs.C03c
import Rva.Proofs.C11b
namespace Rva

/-- **C16 (`markStep_error`).** The markup pass can only fail with the generic error, and only at
    a function entry whose walk ends without having met a return instruction. -/
theorem markStep_error (desc : Bool) (g : Cfg) (e : Nat) (err : CfgErr) (h : markStep desc g e = .error err) :
    err = .unexpectedError ∧ (g.get e).node.isFunctionEntry = true ∧
      (markLoop desc e (markFuel g) { g := g, stack := [e] }).ret = none := by
  unfold markStep at h
  split at h
  · exact absurd h (by simp)
  · rename_i hfe
    simp only [] at h
    split at h
    · rename_i hr
      injection h with h
      exact ⟨h.symm, by simpa using hfe, hr⟩
    · exact absurd h (by simp)

def NoRetInv (st : MarkSt) : Prop :=
  st.ret = none → ∀ i ∈ st.visited, (st.g.get i).node.isReturn = false

theorem markLoop_noret (desc : Bool) (entry : Nat) (fuel : Nat) :
    ∀ st : MarkSt, NoRetInv st → NoRetInv (markLoop desc entry fuel st) := by
  refine markLoop_induct (fun st st' hs h => ?_) fuel
  cases hs with
  | skip => exact h
  | plain _ _ hr =>
    intro e j hj
    rw [(markOwner_edges _ _ _ j).1]
    rcases List.mem_cons.mp hj with rfl | hj
    · exact hr
    · exact h e j hj
  | first => exact fun e => by simp at e
  | later _ _ _ hret => exact fun e => absurd (hret.symm.trans e) (by simp)

/-- **C16 (`markStep_error_no_return`).** When the markup pass fails at a function entry whose
    walk finished, no instruction reachable from that entry is a return: the one way to get the
    generic error out of this pass is a function that reaches no `ret`. -/
theorem markStep_error_no_return (desc : Bool) (g : Cfg) (e : Nat) (err : CfgErr) (hn : RetNoNext g)
    (h : markStep desc g e = .error err)
    (hdone : (markLoop desc e (markFuel g) { g := g, stack := [e] }).stack = []) :
    ∀ n, Reach (markLoop desc e (markFuel g) { g := g, stack := [e] }).g e n →
      ((markLoop desc e (markFuel g) { g := g, stack := [e] }).g.get n).node.isReturn = false := by
  obtain ⟨_, _, hret⟩ := markStep_error desc g e err h
  intro n hreach
  have hmem := mark_complete desc g e (markFuel g) hn hdone n hreach
  rw [markLoop_same desc e (markFuel g) _ rfl] at hmem
  exact markLoop_noret desc e (markFuel g) { g := g, stack := [e] } (fun _ _ hi => nomatch hi) hret n hmem

theorem markAll_error (desc : Bool) (l : List Nat) : ∀ (g : Cfg) (e : CfgErr),
    markAll desc l g = .error e → e = .unexpectedError := by
  induction l with
  | nil => intro g e h; simp [markAll] at h
  | cons x rest ih =>
    intro g e h
    rw [markAll] at h
    split at h
    · exact ih _ e h
    · rename_i err hm
      injection h with h
      exact h ▸ (markStep_error desc g x err hm).1

/-- **C16 (`pipeline_failure_sources`).** Whenever graph generation fails with an error (not a
    sweep bound), the error is one that construction raises — an undefined or duplicate label,
    characterised by `buildCfg_total` — or the generic error, which only the direction pass
    (`directions_error`: a jump to a label attached to no instruction) and the markup pass
    (`markStep_error`: a function entry that reaches no return) can raise. -/
theorem pipeline_failure_sources (desc : Bool) (nodes : List Node) (e : CfgErr)
    (h : genFullCfg desc nodes = .error (.cfg e)) :
    (∃ p, buildCfg nodes p = .error e) ∨ e = .unexpectedError := by
  simp only [genFullCfg, Except.bind_eq_error, liftCfg_eq_error, runAvail_eq_error, PipeErr.cfg.injEq,
    reduceCtorEq, and_false, false_or] at h
  -- in the order of the code: stage-1 build, stage-1 directions, build, directions, markup, liveness
  rcases h with ⟨_, h, rfl⟩ | ⟨_, _, ⟨_, h, rfl⟩ | ⟨_, _, _, _, ⟨_, h, rfl⟩ | ⟨_, _, ⟨_, h, rfl⟩ |
    ⟨_, _, _, _, ⟨_, h, rfl⟩ | ⟨_, _, _, _, h⟩⟩⟩⟩⟩
  · exact Or.inl ⟨_, h⟩
  · exact Or.inr (directions_error _ _ h).1
  · exact Or.inl ⟨_, h⟩
  · exact Or.inr (directions_error _ _ h).1
  · exact Or.inr (markAll_error desc _ _ _ h)
  · split at h <;> simp [pure, Except.pure, throw, throwThe, MonadExceptOf.throw] at h

end Rva
