/-
  C03, markup pass — `FunctionMarkupPass` rewires the additional returns of a function to its
  exit while it walks the graph. `markLoop_symm`: the walk keeps prev/next exact inverses, for
  every graph, every stack and visiting history, provided return instructions have no
  successors (which is how the direction pass leaves them: `RetNoNext`). `markLoop_kinds`: every
  edge it leaves is an edge of the direction pass or leads from a return to a return. `Wired`
  is the two together with `RetNoNext`, which every later pass keeps; `markup_symm` is read off it.
-/
import Rva.Proofs.Markup
namespace Rva

/-- **C09 (`rewireReturn_keeps_locations`).** Rewiring an additional return to the function's exit
    changes no node's location: the jump that replaces the return carries the return's own raw
    token, every other node is untouched. -/
theorem rewireReturn_keeps_locations (g : Cfg) (i r k : Nat) :
    ((rewireReturn g i r).get k).node.tok = (g.get k).node.tok := by
  rw [rewireReturn_get]
  simp only []
  split <;> rfl

/-- **rewiring an additional return keeps prev/next inverse** (the return had no successor) -/
theorem rewire_symm (g : Cfg) (i r : Nat) (hir : i ≠ r) (hi : i < g.nodes.size) (hr : r < g.nodes.size)
    (hs : Symm g) (hn : (g.get i).nexts = []) : Symm (rewireReturn g i r) := by
  intro a b
  simp only [rewireReturn_get, hi, hr, and_true]
  have hs' : ∀ a b, a ∈ (g.get b).prevs ↔ b ∈ (g.get a).nexts := fun a b => (hs a b).symm
  by_cases ha : a = i <;> by_cases hb : b = r <;> simp [ha, hb, mem_insNat, hs', hn]

structure MarkInv (st : MarkSt) : Prop where
  symm : Symm st.g
  rnn : RetNoNext st.g
  ret : ∀ r, st.ret = some r → r ∈ st.visited ∧ r < st.g.nodes.size  -- `RetSeen st`

theorem markLoop_symm (desc : Bool) (entry : Nat) (fuel : Nat) :
    ∀ st : MarkSt, MarkInv st → MarkInv (markLoop desc entry fuel st) := by
  intro st h
  have hg := markLoop_graph (desc := desc) (entry := entry) (Q := fun g => Symm g ∧ RetNoNext g)
    (fun g i h => ⟨(markOwner_edges entry g i).symm' h.1, (markOwner_edges entry g i).rnn h.2⟩)
    (fun g i r hir hi hr h => ⟨rewire_symm g i r hir (isReturn_lt hi) hr h.1 (h.2 i hi), rewire_rnn g i r h.2⟩)
    fuel st h.ret ⟨h.symm, h.rnn⟩
  exact ⟨hg.1, hg.2, markLoop_retSeen desc entry fuel st h.ret⟩

def Shrinks (g g' : Cfg) : Prop :=
  ∀ y, (g'.get y).node = (g.get y).node ∧ ∀ b ∈ (g'.get y).nexts, b ∈ (g.get y).nexts

theorem Pruned.shrinks {g g' : Cfg} (h : Pruned g g') : Shrinks g g' :=
  fun y => ⟨h.node y, fun _ hb => (h.nexts y).subset hb⟩

theorem Shrinks.rnn {g g' : Cfg} (h : Shrinks g g') (hn : RetNoNext g) : RetNoNext g' := by
  intro y hy
  rw [(h y).1] at hy
  refine List.eq_nil_iff_forall_not_mem.mpr fun b hb => ?_
  have := (h y).2 b hb
  rw [hn y hy] at this; exact absurd this List.not_mem_nil

/-- relative to the graph `D` right after the direction pass: every edge of `g` is an edge of `D`
    or leads from a return of `D` to a return of `D`; every instruction of `g` is the one of `D`,
    or a return of `D` that has been turned into a jump -/
structure Kinds (D g : Cfg) : Prop where
  edges : ∀ a b, b ∈ (g.get a).nexts →
    b ∈ (D.get a).nexts ∨ ((D.get a).node.isReturn = true ∧ (D.get b).node.isReturn = true)
  nodes : ∀ y, (g.get y).node = (D.get y).node ∨
    ((D.get y).node.isReturn = true ∧ (g.get y).node.isReturn = false)

theorem Kinds.refl (D : Cfg) : Kinds D D := ⟨fun _ _ h => Or.inl h, fun _ => Or.inl rfl⟩

theorem Kinds.shrinks {D g g' : Cfg} (k : Kinds D g) (h : Shrinks g g') : Kinds D g' :=
  ⟨fun a b hb => k.edges a b ((h a).2 b hb), fun y => by rw [(h y).1]; exact k.nodes y⟩

theorem Kinds.same {D g g' : Cfg} (k : Kinds D g) (h : EdgesSame g g') : Kinds D g' :=
  k.shrinks fun y => ⟨(h y).1, fun _ hb => (h y).2.1 ▸ hb⟩

theorem Kinds.ret {D g : Cfg} (k : Kinds D g) (y : Nat) (h : (g.get y).node.isReturn = true) :
    (D.get y).node.isReturn = true := by
  rcases k.nodes y with e | ⟨e, _⟩
  · rw [← e]; exact h
  · exact e

theorem rewire_kinds (D g : Cfg) (i r : Nat) (k : Kinds D g)
    (hiret : (g.get i).node.isReturn = true) (hrret : (D.get r).node.isReturn = true) :
    Kinds D (rewireReturn g i r) := by
  refine ⟨fun a b hb => ?_, fun y => ?_⟩
  · rcases rewireReturn_nexts hb with ⟨rfl, rfl⟩ | hb
    · exact Or.inr ⟨k.ret a hiret, hrret⟩
    · exact k.edges a b hb
  · rw [rewireReturn_get]
    simp only []
    split
    · rename_i h; rw [h.1]; exact Or.inr ⟨k.ret i hiret, rfl⟩
    · exact k.nodes y

structure KInv (D : Cfg) (st : MarkSt) : Prop where
  inv : MarkInv st
  kinds : Kinds D st.g
  retD : ∀ r, st.ret = some r → (D.get r).node.isReturn = true

theorem markLoop_kinds (D : Cfg) (desc : Bool) (entry : Nat) (fuel : Nat) :
    ∀ st : MarkSt, KInv D st → KInv D (markLoop desc entry fuel st) := by
  intro st h
  have key := markLoop_walk (desc := desc) (entry := entry)
    (P := fun st => Kinds D st.g ∧ ∀ r, st.ret = some r → (D.get r).node.isReturn = true)
    (fun _ _ _ _ _ h => h) (fun st i _ _ _ h => ⟨h.1.same (markOwner_edges entry st.g i), h.2⟩)
    (fun st i _ hi _ h => ⟨h.1, fun r e => by injection e with e; exact e ▸ h.1.ret i hi⟩)
    (fun st i r _ hi hret _ _ _ h => ⟨rewire_kinds D st.g i r h.1 hi (h.2 r hret), h.2⟩)
    fuel st h.inv.ret ⟨h.kinds, h.retD⟩
  exact ⟨markLoop_symm desc entry fuel st h.inv, key.1, key.2⟩

structure Wired (D g : Cfg) : Prop where
  symm : Symm g
  rnn : RetNoNext g
  kinds : Kinds D g

theorem Wired.pruned {D g g' : Cfg} (w : Wired D g) (h : Pruned g g') : Wired D g' :=
  ⟨h.symm w.symm, h.shrinks.rnn w.rnn, w.kinds.shrinks h.shrinks⟩

theorem Wired.same {D g g' : Cfg} (w : Wired D g) (h : EdgesSame g g') : Wired D g' :=
  ⟨h.symm' w.symm, h.rnn w.rnn, w.kinds.same h⟩

theorem Wired.markup {D g g' : Cfg} (w : Wired D g) (desc : Bool) (h : markup desc g = .ok g') : Wired D g' := by
  refine markAll_induct desc (P := Wired D) (fun g g' hn w => w.same (edgesSame_of_nodes hn))
    (fun g e w => ?_) _ g g' w h
  have := markLoop_kinds D desc e (markFuel g) { g := g, stack := [e] }
    ⟨⟨w.symm, w.rnn, RetSeen.init g [e]⟩, w.kinds, fun _ hr => nomatch hr⟩
  exact ⟨this.inv.symm, this.inv.rnn, this.kinds⟩

/-- **C03 (`markup_symm`).** The function markup pass — including its in-walk rewiring of
    additional returns — keeps the successor and predecessor relations exact inverses. -/
theorem markup_symm (desc : Bool) (g g' : Cfg) (hs : Symm g) (hn : RetNoNext g)
    (h : markup desc g = .ok g') : Symm g' :=
  (Wired.markup ⟨hs, hn, Kinds.refl g⟩ desc h).symm

end Rva
