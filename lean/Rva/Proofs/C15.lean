/-
  C15 — include faults. Every reader fault becomes a parse error located on the token of the path
  written in the directive (`toParseErr_located`); the parse loop records exactly that one error,
  keeps every node and error collected so far, enters no file and continues with the statement after
  the directive (`include_fault_one_error`). The in-memory reader hands out a file at most once, so
  self- and cyclic inclusion is answered with `FileAlreadyRead` (→ "Cyclic dependency"). That
  including is pasting is proved for one level of plain statements (`include_is_paste`, C15b); for
  whole include trees it is carried by the metamorphic check (split vs pasted) on the real code with
  both readers, and the model correspondence.
-/
import Rva.Model.Parser
namespace Rva

theorem toParseErr_located (e : ReaderErr) (path : W String) : (e.toParseErr path).tok = path.tok := by
  cases e <;> rfl

/-- One step of the parse loop at an `.include` whose file the reader refuses. -/
theorem include_fault_one_error (fuel : Nat) (top : List PItem) (below : List (List PItem)) (r r' : Reader)
    (nodes : List Node) (errs : List ParseErr) (x : Node) (rest : List PItem) (path : W String)
    (e : ReaderErr)
    (hstep : parseStep top = (.ok x, rest)) (hinc : x.includePath = some path)
    (himp : r.importFile path.val = (.error e, r')) :
    parseLoop (fuel + 1) (top :: below) r nodes errs =
      parseLoop fuel (rest :: below) r' nodes (e.toParseErr path :: errs) := by
  rw [parseLoop]
  simp only [hstep, hinc, himp]

/-- …and when the reader delivers the file, its tokens are parsed next, in place. -/
theorem include_enters_file (fuel : Nat) (top : List PItem) (below : List (List PItem)) (r r' : Reader)
    (nodes : List Node) (errs : List ParseErr) (x : Node) (rest : List PItem) (path : W String)
    (fid : FileId) (text : String)
    (hstep : parseStep top = (.ok x, rest)) (hinc : x.includePath = some path)
    (himp : r.importFile path.val = (.ok (fid, text), r')) :
    parseLoop (fuel + 1) (top :: below) r nodes errs =
      parseLoop fuel (lexFile text fid :: rest :: below) r' nodes errs := by
  rw [parseLoop]
  simp only [hstep, hinc, himp]

theorem importFile_ok {r r' : Reader} {p text : String} {fid : FileId}
    (h : r.importFile p = (.ok (fid, text), r')) :
    r.read.contains p = false ∧ (p, text) ∈ r.files ∧ r' = { r with read := r.read ++ [p] } := by
  unfold Reader.importFile at h
  split at h
  · cases h
  · split at h
    · cases h
    · rename_i hnr
      split at h
      · rename_i n t hf
        have hn : n = p := by simpa using List.find?_some hf
        cases h
        exact ⟨by simpa using hnr, hn ▸ List.mem_of_find?_eq_some hf, by rw [hn]⟩
      · cases h

theorem importFile_error {r r' : Reader} {p : String} {e : ReaderErr}
    (h : r.importFile p = (.error e, r')) : r' = r := by
  unfold Reader.importFile at h
  split at h
  · cases h; rfl
  · split at h
    · cases h; rfl
    · split at h <;> cases h
      rfl

/-- The reader never hands out the same file twice. -/
theorem import_twice_refused (r r' : Reader) (p : String) (fid : FileId) (text : String)
    (h : r.importFile p = (.ok (fid, text), r')) :
    ∃ e, (r'.importFile p).1 = .error e := by
  obtain ⟨_, _, rfl⟩ := importFile_ok h
  unfold Reader.importFile
  split
  · exact ⟨_, rfl⟩
  · exact ⟨.fileAlreadyRead, by simp⟩

end Rva
