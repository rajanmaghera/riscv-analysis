/-
  What each primitive graph operation does to a node, as one equation per
  operation (`Cfg.addEdge_get`, `Cfg.cutOut_get`, `Cfg.cutIn_get`, `rewireReturn_get`); a
  field-wise fact about the result (node, labels, facts, nexts, prevs, lengths) is a `rw` with it.
-/
import Rva.Model.Cfg
namespace Rva

theorem Cfg.get_oob (g : Cfg) (i : Nat) (h : ¬ i < g.nodes.size) : g.get i = default := by
  simp [Cfg.get, h]

theorem Cfg.get_of_lt (g : Cfg) (i : Nat) (h : i < g.nodes.size) : g.get i = g.nodes[i] := by
  simp [Cfg.get, h]

theorem Cfg.get_mem_toList (g : Cfg) (i : Nat) (h : i < g.nodes.size) : g.get i ∈ g.nodes.toList := by
  simp [Cfg.get, h]

theorem Cfg.get_of_nodes {g g' : Cfg} (h : g'.nodes = g.nodes) (y : Nat) : g'.get y = g.get y := by
  unfold Cfg.get; rw [h]

@[simp] theorem Cfg.size_modify (g : Cfg) (i : Nat) (f : CNode → CNode) :
    (g.modify i f).nodes.size = g.nodes.size := by
  simp [Cfg.modify]

theorem Cfg.get_modify (g : Cfg) (i j : Nat) (f : CNode → CNode) :
    (g.modify i f).get j = if j = i ∧ i < g.nodes.size then f (g.get j) else g.get j := by
  simp only [Cfg.get, Cfg.modify, getElem!_def, Array.getElem?_modify]
  by_cases hij : i = j
  · subst hij
    by_cases h : i < g.nodes.size <;> simp [h]
  · simp [hij, Ne.symm hij]

theorem Cfg.modify_keeps {α} (π : CNode → α) (g : Cfg) (i : Nat) (f : CNode → CNode) (y : Nat)
    (hf : ∀ m, π (f m) = π m) : π ((g.modify i f).get y) = π (g.get y) := by
  rw [Cfg.get_modify]; split
  · exact hf _
  · rfl

theorem Cfg.modify_eq_self (g : Cfg) (i : Nat) (f : CNode → CNode) (h : f (g.get i) = g.get i) :
    g.modify i f = g := by
  cases g with
  | mk nodes funcs lf =>
    simp only [Cfg.modify, Cfg.mk.injEq, and_true]
    apply Array.ext (by simp)
    intro j _ hj
    rw [Array.getElem_modify]
    split
    · rename_i hij; subst hij; rwa [Cfg.get_of_lt _ i hj] at h
    · rfl

/-- for an update that leaves the default node alone (all edge removals), no range condition -/
theorem Cfg.get_modify_of_default (g : Cfg) (i j : Nat) (f : CNode → CNode) (hf : f default = default) :
    (g.modify i f).get j = if j = i then f (g.get j) else g.get j := by
  rw [Cfg.get_modify]
  by_cases h : i < g.nodes.size
  · simp [h]
  · by_cases hij : j = i
    · subst hij; simp [h, Cfg.get_oob g j h, hf]
    · simp [hij]

theorem Cfg.size_foldl_modify (f : Nat → CNode → CNode) (l : List Nat) (g : Cfg) :
    (l.foldl (fun g s => g.modify s (f s)) g).nodes.size = g.nodes.size := by
  induction l generalizing g with
  | nil => rfl
  | cons s rest ih => rw [List.foldl_cons, ih, Cfg.size_modify]

/-- `hf` is needed because the list may name an index twice -/
theorem Cfg.get_foldl_modify (f : CNode → CNode) (hd : f default = default) (hf : ∀ m, f (f m) = f m)
    (l : List Nat) (g : Cfg) (y : Nat) :
    (l.foldl (fun g s => g.modify s f) g).get y = if y ∈ l then f (g.get y) else g.get y := by
  induction l generalizing g with
  | nil => simp
  | cons s rest ih =>
    rw [List.foldl_cons, ih, Cfg.get_modify_of_default _ _ _ _ hd]
    by_cases hs : y = s
    · subst hs; by_cases hin : y ∈ rest <;> simp [hin, hf]
    · simp [hs]

theorem mem_insNat (x y : Nat) (l : List Nat) : y ∈ insNat x l ↔ y = x ∨ y ∈ l := by
  induction l with
  | nil => simp [insNat]
  | cons z zs ih =>
    unfold insNat
    split
    · simp
    · split
      · rename_i h
        rw [show x = z by simpa using h]; simp
      · rw [List.mem_cons, ih, List.mem_cons]; exact or_left_comm

theorem insNat_length_le (x : Nat) (l : List Nat) : (insNat x l).length ≤ l.length + 1 := by
  induction l with
  | nil => simp [insNat]
  | cons y ys ih =>
    unfold insNat
    split
    · simp
    · split
      · simp
      · simp only [List.length_cons]; omega

theorem mem_removeNat (x y : Nat) (l : List Nat) : y ∈ removeNat x l ↔ y ∈ l ∧ y ≠ x := by
  simp [removeNat]

theorem removeNat_idem (x : Nat) (l : List Nat) : removeNat x (removeNat x l) = removeNat x l := by
  simp [removeNat]

theorem removeNat_sublist (x : Nat) (l : List Nat) : (removeNat x l).Sublist l := List.filter_sublist

/- Each equation below is two or three nested `Cfg.get_modify`; the conditions are stated as
  `get_modify` states them, so the cases close by `rfl` (on a variable `m`: on the term `g.get y`
  the unifier would unfold `get`). -/

theorem Cfg.addEdge_size (g : Cfg) (a b : Nat) : (g.addEdge a b).nodes.size = g.nodes.size := by
  simp [Cfg.addEdge]

theorem Cfg.addEdge_get (g : Cfg) (a b y : Nat) :
    (g.addEdge a b).get y = { g.get y with
      nexts := if y = a ∧ a < g.nodes.size then insNat b (g.get y).nexts else (g.get y).nexts
      prevs := if y = b ∧ b < g.nodes.size then insNat a (g.get y).prevs else (g.get y).prevs } := by
  unfold Cfg.addEdge
  rw [Cfg.get_modify, Cfg.get_modify, Cfg.size_modify]
  generalize g.get y = m
  split <;> split <;> rfl

theorem Cfg.cutOut_size (g : Cfg) (i : Nat) : (g.cutOut i).nodes.size = g.nodes.size := by
  unfold Cfg.cutOut; rw [Cfg.size_modify, Cfg.size_foldl_modify (fun _ => _)]

theorem Cfg.cutOut_get (g : Cfg) (i y : Nat) :
    (g.cutOut i).get y = { g.get y with
      nexts := if y = i then [] else (g.get y).nexts
      prevs := if y ∈ (g.get i).nexts then removeNat i (g.get y).prevs else (g.get y).prevs } := by
  unfold Cfg.cutOut
  rw [Cfg.get_modify_of_default _ _ _ _ rfl,
    Cfg.get_foldl_modify _ rfl (fun m => by simp [removeNat_idem])]
  generalize g.get y = m
  split <;> split <;> rfl

theorem Cfg.cutIn_size (g : Cfg) (i : Nat) : (g.cutIn i).nodes.size = g.nodes.size := by
  unfold Cfg.cutIn; rw [Cfg.size_modify, Cfg.size_foldl_modify (fun _ => _)]

theorem Cfg.cutIn_get (g : Cfg) (i y : Nat) :
    (g.cutIn i).get y = { g.get y with
      prevs := if y = i then [] else (g.get y).prevs
      nexts := if y ∈ (g.get i).prevs then removeNat i (g.get y).nexts else (g.get y).nexts } := by
  unfold Cfg.cutIn
  rw [Cfg.get_modify_of_default _ _ _ _ rfl,
    Cfg.get_foldl_modify _ rfl (fun m => by simp [removeNat_idem])]
  generalize g.get y = m
  split <;> split <;> rfl

theorem rewireReturn_size (g : Cfg) (i r : Nat) : (rewireReturn g i r).nodes.size = g.nodes.size := by
  simp [rewireReturn]

theorem rewireReturn_get (g : Cfg) (i r y : Nat) :
    (rewireReturn g i r).get y = { g.get y with
      nexts := if y = i ∧ i < g.nodes.size then [r] else (g.get y).nexts
      node := if y = i ∧ i < g.nodes.size then returnJump (g.get y) (g.get y).node.tok else (g.get y).node
      prevs := if y = r ∧ r < g.nodes.size then insNat i (g.get y).prevs else (g.get y).prevs } := by
  unfold rewireReturn
  rw [Cfg.get_modify, Cfg.get_modify, Cfg.size_modify]
  generalize g.get y = m
  split <;> split <;> rfl

end Rva
