/-
  One turn of the parse loop. `parseLoop` looks at the result of `parseStep` on the top item list and
  goes on in one of four ways: the file is used up (`parseLoop_eof`), an `.include` is entered or
  refused (`include_enters_file`, `include_fault_one_error`, C15), or - every other outcome, node or
  error - the statement leaves `nextTop top` on the stack and puts `stmtNodes` / `stmtErrs` in front
  of what was collected (`parseLoop_plain`). Everything said about the loop for an arbitrary
  statement rests on these four equations, and `parseLoop_plain` is where the eleven kinds of
  `LexErr` are told apart (C13b unfolds the loop itself, on three concrete outcomes: blank line,
  comment, label).
-/
import Rva.Proofs.C07b
import Rva.Proofs.C07
import Rva.Proofs.C15
namespace Rva

/-- the parse error the loop records for a statement that failed with `e` (none for a blank line,
    a comment, the end of the input and the two-node expansion) -/
def LexErr.reported : LexErr → Option ParseErr
  | .expected ex got => some (.expected ex got)
  | .unexpectedToken got => some (.unexpectedToken got)
  | .unexpectedError t => some (.unexpectedError t)
  | .unknownDirective t => some (.unknownDirective t)
  | .ignoredWithWarning t | .unsupportedDirective t => some (.unsupported t)
  | .invalidString t k p => some (.invalidString t k p)
  | .isNewline _ | .unexpectedEOF | .needTwoNodes _ _ | .ignoredWithoutWarning => none

/-- does the loop skip to the end of the line after a statement that failed with `e`? -/
def LexErr.recovers : LexErr → Bool
  | .expected _ got => !(got.kind == .newline)
  | .unexpectedToken _ | .unexpectedError _ | .unknownDirective _ | .ignoredWithWarning _
  | .unsupportedDirective _ | .invalidString _ _ _ => true
  | .isNewline _ | .unexpectedEOF | .needTwoNodes _ _ | .ignoredWithoutWarning => false

def nextTop (a : List PItem) : List PItem :=
  match parseStep a with
  | (.ok _, rest) => rest
  | (.error e, rest) => if e.recovers then recover rest else rest

/-- newest first; an error carries nodes when a load or store was expanded into two -/
def stmtNodes : Except LexErr Node → List Node
  | .ok x => [x]
  | .error (.needTwoNodes a b) => [b, a]
  | .error _ => []

def stmtErrs : Except LexErr Node → List ParseErr
  | .ok _ => []
  | .error e => e.reported.toList

theorem nextTop_ok {a rest : List PItem} {x : Node} (h : parseStep a = (.ok x, rest)) : nextTop a = rest := by
  rw [nextTop, h]

theorem nextTop_error {a rest : List PItem} {e : LexErr} (h : parseStep a = (.error e, rest)) :
    nextTop a = if e.recovers then recover rest else rest := by
  rw [nextTop, h]

theorem nextTop_suffix_rest (a : List PItem) : nextTop a <:+ (parseStep a).2 := by
  unfold nextTop
  obtain ⟨res, rest⟩ := parseStep a
  cases res with
  | ok _ => exact List.suffix_refl _
  | error e =>
    simp only []
    split
    · exact recover_isSuffix rest
    · exact List.suffix_refl _

theorem nextTop_suffix (a : List PItem) : nextTop a <:+ a :=
  (nextTop_suffix_rest a).trans (parseStep_suffix a)

theorem nextTop_shorter (a : List PItem) (h : a ≠ []) : (nextTop a).length < a.length :=
  Nat.lt_of_le_of_lt (nextTop_suffix_rest a).length_le (parseStep_shorter h)

theorem parseLoop_nil (fuel : Nat) (r : Reader) (nodes : List Node) (errs : List ParseErr) :
    parseLoop fuel [] r nodes errs = ⟨nodes.reverse, errs.reverse, r⟩ := by
  cases fuel <;> rfl

theorem parseLoop_eof {top : List PItem} (h : (parseStep top).1 = .error .unexpectedEOF) (fuel : Nat)
    (below : List (List PItem)) (r : Reader) (nodes : List Node) (errs : List ParseErr) :
    parseLoop (fuel + 1) (top :: below) r nodes errs = parseLoop fuel below r nodes errs := by
  rw [parseLoop, show parseStep top = (.error .unexpectedEOF, (parseStep top).2) from Prod.ext h rfl]

theorem parseLoop_plain {top : List PItem} (hne : (parseStep top).1 ≠ .error .unexpectedEOF)
    (hinc : ∀ x, (parseStep top).1 = .ok x → x.includePath = none) (fuel : Nat)
    (below : List (List PItem)) (r : Reader) (nodes : List Node) (errs : List ParseErr) :
    parseLoop (fuel + 1) (top :: below) r nodes errs =
      parseLoop fuel (nextTop top :: below) r (stmtNodes (parseStep top).1 ++ nodes)
        (stmtErrs (parseStep top).1 ++ errs) := by
  rw [parseLoop, nextTop]
  generalize parseStep top = p at hne hinc ⊢
  obtain ⟨res, rest⟩ := p
  cases res with
  | ok x => simp only [hinc x rfl]; rfl
  | error e =>
    cases e with
    | unexpectedEOF => exact absurd rfl hne
    | expected ex got => cases h : got.kind == TokKind.newline <;> simp only [LexErr.recovers, h] <;> rfl
    | _ => rfl

end Rva
