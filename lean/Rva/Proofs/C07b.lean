/-
  C07 / C06 at the parser level — what one statement parse does to the item stream.

  `Good m`: running the parser computation `m` from any state leaves a *suffix* of the items it
  started with (items are only ever consumed from the front, never re-read, re-ordered or
  invented), and `m` reports the end of the input only when no item is left.
-/
import Rva.Proofs.ParserInv
namespace Rva

def Good {α} (m : P α) : Prop :=
  ∀ s : PState, (runP m s).2.items <:+ s.items ∧
    ((runP m s).1 = .error .unexpectedEOF → (runP m s).2.items = [])

theorem Built.good {L : Prop} {α} {K : List FTok} {tk : α → List FTok} {m : P α} (h : Built L K tk m) :
    Good m := by
  induction h with
  | pure | rawNow | get => exact fun _ => ⟨List.suffix_refl _, nofun⟩
  | throw he => exact fun _ => ⟨List.suffix_refl _, fun h => absurd (Except.error.inj h) he⟩
  | @bind _ _ _ _ _ m _ _ _ hm hf =>
    intro s
    have h1 := hm s
    rw [runP_bind]
    generalize runP m s = r at h1 ⊢
    rcases r with ⟨_ | a, s'⟩
    · exact ⟨h1.1, fun hh => h1.2 (by cases hh; rfl)⟩
    · exact ⟨(hf a s').1.trans h1.1, (hf a s').2⟩
  | getAny =>
    intro s
    rw [runP_getAny]
    split <;> simp_all [List.suffix_cons]
  | peekAny =>
    intro s
    rw [runP_peekAny]
    split <;> simp_all
  | dropBad =>
    intro s
    rw [runP_dropBad]
    refine ⟨?_, nofun⟩
    split <;> simp_all [List.suffix_cons]

theorem parseInst_good (m : FTok) (v : String) : Good (parseInst m v) :=
  (parseInst_stmt (L := True) m v).built.good

theorem parseNodeK_good (m : FTok) : Good (parseNodeK m) :=
  (parseNodeK_stmt m fun _ _ _ _ => trivial).built.good

theorem parseNode_good : Good parseNode := parseNode_stmt.built.good

/-- **C07 (`parseStep_suffix`).** One statement parse leaves a suffix of the items it was given:
    items are consumed from the front only - nothing is re-read, re-ordered or invented. -/
theorem parseStep_suffix (items : List PItem) : (parseStep items).2 <:+ items :=
  (parseNode_good { items := items }).1

/-- **C07 (`parseStep_eof`).** A statement parse reports the end of the input only when it has
    consumed every item: the parse loop never abandons a file while items remain unread. -/
theorem parseStep_eof (items : List PItem) (h : (parseStep items).1 = .error .unexpectedEOF) :
    (parseStep items).2 = [] :=
  (parseNode_good { items := items }).2 h

/-- **C07 / C06 (`parseStep_progress`).** A statement parse on a non-empty item list consumes at
    least its first item (whatever it is): the parse loop makes progress in every step. -/
theorem parseStep_progress (it : PItem) (rest : List PItem) : (parseStep (it :: rest)).2 <:+ rest := by
  cases it with
  | tok t => rw [parseStep_tok]; exact (parseNodeK_good t _).1
  | _ => exact List.suffix_refl _

theorem parseStep_shorter {a : List PItem} (h : a ≠ []) : (parseStep a).2.length < a.length := by
  obtain ⟨it, rest, rfl⟩ := List.exists_cons_of_ne_nil h
  exact Nat.lt_succ_of_le (parseStep_progress it rest).length_le

end Rva
