/-
  C02 — liveness: one node update.

  `liveNode` is a match on the call target followed by a chain of `if`s, and every branch ends in
  "store live-out, store live-in and u_def, report whether anything differed". `liveNode_call`
  and `liveNode_plain` say so once; everything else about `liveNode` is read off these two
  equations: `liveNode_quiet` (no change reported: the graph is the same and the documented
  equations hold at the node, hence `liveNode_stable` and `liveNode_noop`) and, in `C02Least`,
  `liveNode_shape` and `liveNode_below`.
-/
import Rva.Proofs.Graph
import Rva.Proofs.RegSet
import Rva.Model.Liveness
namespace Rva

def CNode.live (n : CNode) : RegSet × RegSet := (n.liveIn, n.liveOut)

def liveKill (g : Cfg) (cn : CNode) : RegSet :=
  match callsToFromCfg g cn with
  | some _ => cn.node.killReg
  | none => if cn.node.isEcall then callerSavedSet
            else if cn.node.isReturn then RegSet.empty
            else cn.node.killReg

/-- **Equations at one node** (the five cases of `liveness.rs`; its function-entry arm and its
    default arm set the same `live_in` and are one branch here). -/
def LiveEqAt (g : Cfg) (i : Nat) : Prop :=
  let cn := g.get i
  let n := cn.node
  cn.liveOut = unionOver (cn.nexts.map fun s => (g.get s).liveIn) ∧
  match callsToFromCfg g cn with
  | some (func, _) =>
    (g.get func.exit).liveIn = cn.liveOut ||| (g.get func.exit).liveIn ∧
    cn.liveIn = ((g.get func.entry).liveOut &&& argumentSet) ||| (RegSet.diff cn.liveOut n.killReg) ||| n.genReg
  | none =>
    if n.isEcall then
      cn.liveIn = (RegSet.diff cn.liveOut callerSavedSet) ||| ecallAlwaysArgumentSet |||
        ((ecallSignature cn).getD (0#32, 0#32)).1
    else if n.isReturn then cn.liveIn = cn.liveIn ||| n.genReg
    else cn.liveIn = (RegSet.diff cn.liveOut n.killReg) ||| n.genReg

theorem callsTo_modify (g : Cfg) (i : Nat) (f : CNode → CNode) (cn : CNode) :
    callsToFromCfg (g.modify i f) cn = callsToFromCfg g cn := rfl

theorem mem_unionOver (l : List RegSet) (r : Reg) :
    RegSet.mem (unionOver l) r = true ↔ ∃ x ∈ l, RegSet.mem x r = true := by
  rw [unionOver, ← List.foldr_eq_foldl]
  induction l with
  | nil => simp
  | cons x xs ih =>
    simp only [List.foldr_cons, RegSet.mem_or, Bool.or_eq_true, ih, List.mem_cons, exists_eq_or_imp]

theorem Sub.unionOver (l : List RegSet) (c : RegSet) (h : ∀ x ∈ l, Sub x c) : Sub (unionOver l) c := by
  intro r hr
  obtain ⟨x, hx, hxr⟩ := (mem_unionOver l r).mp hr
  exact h x hx r hxr

def plainLiveIn (cn : CNode) (cur lo : RegSet) : RegSet :=
  if cn.node.isEcall then
    (RegSet.diff lo callerSavedSet) ||| ecallAlwaysArgumentSet ||| ((ecallSignature cn).getD (0#32, 0#32)).1
  else if cn.node.isReturn then cur ||| cn.node.genReg
  else (RegSet.diff lo cn.node.killReg) ||| cn.node.genReg

theorem liveEqAt_plain (g : Cfg) (i : Nat) (hc : callsToFromCfg g (g.get i) = none) :
    LiveEqAt g i ↔ (g.get i).liveOut = unionOver ((g.get i).nexts.map fun s => (g.get s).liveIn) ∧
      (g.get i).liveIn = plainLiveIn (g.get i) (g.get i).liveIn (g.get i).liveOut := by
  unfold LiveEqAt plainLiveIn
  simp only [hc]
  split
  · exact Iff.rfl
  · split <;> exact Iff.rfl

def liveOutOf (g : Cfg) (i : Nat) : RegSet := unionOver ((g.get i).nexts.map fun s => (g.get s).liveIn)

theorem liveNode_plain (g : Cfg) (vis : List Nat) (i : Nat) (hc : callsToFromCfg g (g.get i) = none) :
    ∃ ud, liveNode g vis i =
      let lo := liveOutOf g i
      let li := plainLiveIn (g.get i) (g.get i).liveIn lo
      ((g.modify i fun m => { m with liveOut := lo }).modify i fun m => { m with liveIn := li, uDef := ud },
        lo != (g.get i).liveOut || li != (g.get i).liveIn || ud != (g.get i).uDef) := by
  unfold liveNode plainLiveIn liveOutOf
  simp only [callsTo_modify, hc]
  split
  · exact ⟨_, rfl⟩
  · split
    · exact ⟨_, rfl⟩
    · split <;> exact ⟨_, rfl⟩

theorem liveNode_call (g : Cfg) (vis : List Nat) (i : Nat) (f : Func) (nm : W String)
    (hc : callsToFromCfg g (g.get i) = some (f, nm)) :
    ∃ ud, liveNode g vis i =
      let lo := liveOutOf g i
      let ex := lo ||| (g.get f.exit).liveIn
      let g2 := (g.modify i fun m => { m with liveOut := lo }).modify f.exit fun m => { m with liveIn := ex }
      let li := ((g2.get f.entry).liveOut &&& argumentSet) ||| (RegSet.diff lo (g.get i).node.killReg) |||
        (g.get i).node.genReg
      (g2.modify i fun m => { m with liveIn := li, uDef := ud },
        lo != (g.get i).liveOut || ex != (g.get f.exit).liveIn || li != (g2.get i).liveIn ||
          ud != (g2.get i).uDef) := by
  unfold liveNode liveOutOf
  simp only [callsTo_modify, hc]
  rw [Cfg.modify_keeps CNode.liveIn g i _ f.exit]
  · exact ⟨_, rfl⟩
  · exact fun _ => rfl

theorem liveNode_quiet (g : Cfg) (vis : List Nat) (i : Nat) (g' : Cfg)
    (h : liveNode g vis i = (g', false)) : g' = g ∧ LiveEqAt g i := by
  cases hc : callsToFromCfg g (g.get i) with
  | none =>
    obtain ⟨ud, e⟩ := liveNode_plain g vis i hc
    rw [e] at h
    simp only [Prod.mk.injEq, Bool.or_eq_false_iff, bne_eq_false_iff_eq] at h
    obtain ⟨hg, ⟨h0, h1⟩, h2⟩ := h
    rw [h0] at hg h1
    rw [Cfg.modify_eq_self g i _ rfl, Cfg.modify_eq_self g i _ (by rw [h1, h2])] at hg
    exact ⟨hg.symm, (liveEqAt_plain g i hc).mpr ⟨h0.symm, h1.symm⟩⟩
  | some p =>
    obtain ⟨f, nm⟩ := p
    obtain ⟨ud, e⟩ := liveNode_call g vis i f nm hc
    rw [e] at h
    simp only [Prod.mk.injEq, Bool.or_eq_false_iff, bne_eq_false_iff_eq] at h
    obtain ⟨hg, ⟨⟨h0, h1⟩, h2⟩, h3⟩ := h
    rw [h0] at h1
    rw [h0, h1, Cfg.modify_eq_self g i _ rfl, Cfg.modify_eq_self g f.exit _ rfl] at hg h2 h3
    rw [Cfg.modify_eq_self g i _ (by rw [h2, h3])] at hg
    refine ⟨hg.symm, h0.symm, ?_⟩
    simp only [hc]
    exact ⟨h1.symm, h2.symm⟩

/-- **C02 (`liveNode_stable`, one node).** If updating a node reports no change, the liveness
    equations hold at that node. -/
theorem liveNode_stable (g : Cfg) (vis : List Nat) (i : Nat) (g' : Cfg)
    (h : liveNode g vis i = (g', false)) : LiveEqAt g i :=
  (liveNode_quiet g vis i g' h).2

theorem liveNode_noop (g : Cfg) (vis : List Nat) (i : Nat) (g' : Cfg)
    (h : liveNode g vis i = (g', false)) : g' = g :=
  (liveNode_quiet g vis i g' h).1

end Rva
