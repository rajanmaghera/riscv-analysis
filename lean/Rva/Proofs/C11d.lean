/-
  C11 / C06 — every graph the pipeline hands to the markup pass has at most two successors per
  node, so the function walk always finishes (`markLoop_terminates`), for every program:
  `pipeline_markup_terminates`.
-/
import Rva.Proofs.C11c
import Rva.Proofs.C16b
namespace Rva

/-- the direction pass gives every node at most two successors, all in range -/
theorem directions_outSmall (g0 g1 : Cfg) (hno : ∀ i, (g0.get i).nexts = [] ∧ (g0.get i).prevs = [])
    (hd : directions g0 = .ok g1) : OutSmall g1 := by
  have s := directions_spec g0 g1 hd
  refine ⟨fun a => by have := s.len a; rwa [(hno a).1] at this, fun a b hb => ?_⟩
  rw [s.same.1]
  rcases (s.nexts a b).1 hb with hb | ⟨_, hlt, _⟩ | ⟨_, l, _, hf⟩
  · rw [(hno a).1] at hb; exact absurd hb List.not_mem_nil
  · exact hlt
  · exact findLabel_lt g0 l.val b hf

theorem markStep_outSmall (desc : Bool) (g g' : Cfg) (e : Nat) (he : e < g.nodes.size) (h : OutSmall g)
    (hs : markStep desc g e = .ok g') : OutSmall g' ∧ g'.nodes.size = g.nodes.size := by
  rcases markStep_ok desc g g' e hs with ⟨_, rfl⟩ | ⟨_, _, _, rfl, _, hn, _⟩
  · exact ⟨h, rfl⟩
  · obtain ⟨_, hsm, hsz⟩ := markLoop_terminates desc g e he h
    exact ⟨((edgesSame_of_nodes hn).pruned (by rw [hn])).outSmall hsm, by rw [hn]; exact hsz⟩

/-- **C11 / C06 (`markAllDone_true`).** On a graph with at most two successors per node, every
    walk of the markup pass ends within its fuel: the decidable side condition `markAllDone` of
    `body_is_reachable_set` always holds. -/
theorem markAllDone_true (desc : Bool) (l : List Nat) : ∀ (g : Cfg), OutSmall g →
    (∀ e ∈ l, e < g.nodes.size) → markAllDone desc l g = true := by
  induction l with
  | nil => intro g _ _; rfl
  | cons e rest ih =>
    intro g h hl
    have he : e < g.nodes.size := hl e List.mem_cons_self
    unfold markAllDone
    simp only []
    have hdone : (!(g.get e).node.isFunctionEntry ||
        (markLoop desc e (markFuel g) { g := g, stack := [e] }).stack.isEmpty) = true := by
      rw [(markLoop_terminates desc g e he h).1]; simp
    rw [hdone]
    cases hm : markStep desc g e with
    | error _ => rfl
    | ok g' =>
      simp only [Bool.true_and]
      obtain ⟨h', hsz⟩ := markStep_outSmall desc g g' e he h hm
      exact ih g' h' (fun x hx => by rw [hsz]; exact hl x (List.mem_cons_of_mem _ hx))

theorem markup_done (desc : Bool) (g : Cfg) (h : OutSmall g) :
    markAllDone desc (List.range g.nodes.size) g = true :=
  markAllDone_true desc _ g h (fun e he => by simpa using he)

/-- **C11 / C06 (`pipeline_markup_terminates`).** For every program whose graph construction
    and direction pass succeed, the graph handed to the function markup (after dead-code pruning,
    the first value analysis and ecall termination) has at most two successors per node, so every
    function walk finishes within its fuel - whatever the program. -/
theorem pipeline_markup_terminates (desc : Bool) (nodes : List Node) (p : Option (List (W String)))
    (g0 g1 : Cfg) (h0 : buildCfg nodes p = .ok g0) (h1 : directions g0 = .ok g1) :
    let g4 := ecallTerm (available (deadCode g1)).1
    OutSmall g4 ∧ markAllDone desc (List.range g4.nodes.size) g4 = true := by
  have s4 := (((deadCode_pruned g1).trans (available_pruned _)).trans (ecallTerm_pruned _)).outSmall
    (directions_outSmall g0 g1 (buildCfg_noEdges _ _ g0 h0) h1)
  exact ⟨s4, markup_done desc _ s4⟩

/-- **C11 (`markStep_body_total`).** On every graph with at most two successors per node - every
    graph the pipeline hands to the markup pass (`pipeline_markup_terminates`) - one step of the
    markup pass at a function entry adds exactly one function whose recorded body is exactly the
    set of nodes the entry reaches in the resulting graph. -/
theorem markStep_body_total (desc : Bool) (g g' : Cfg) (e : Nat) (he : e < g.nodes.size) (hs : OutSmall g)
    (hn : RetNoNext g) (hfe : (g.get e).node.isFunctionEntry = true) (h : markStep desc g e = .ok g') :
    ∃ f, g'.funcs = g.funcs ++ [f] ∧ f.entry = e ∧ ∀ n, n ∈ f.nodes ↔ Reach g' e n :=
  markStep_body desc g g' e hn hfe (markLoop_terminates desc g e he hs).1 h

/-- **C16 (`markStep_error_total`).** On every graph with at most two successors per node, when
    the markup pass fails at a function entry, no instruction reachable from that entry is a
    return. -/
theorem markStep_error_total (desc : Bool) (g : Cfg) (e : Nat) (he : e < g.nodes.size) (hs : OutSmall g)
    (err : CfgErr) (hn : RetNoNext g) (h : markStep desc g e = .error err) :
    ∀ n, Reach (markLoop desc e (markFuel g) { g := g, stack := [e] }).g e n →
      ((markLoop desc e (markFuel g) { g := g, stack := [e] }).g.get n).node.isReturn = false :=
  markStep_error_no_return desc g e err hn h (markLoop_terminates desc g e he hs).1

end Rva
