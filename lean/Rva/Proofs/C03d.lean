/-
  C03, which edges there are. The direction pass creates exactly the fall-through and jump edges
  (`directions_edges`, in Directions); the later passes only remove edges (dead-code pruning,
  ecall termination), leave them alone (value analysis, liveness) or rewire a return to the return
  the function walk met first (function markup): `pipeline_edge_kinds`.
  `unreachable_only_without_edge` ties the "unreachable" of the control-flow lint to the graph.
-/
import Rva.Proofs.C03c
import Rva.Proofs.C05b
namespace Rva

/-- **C03 (`pipeline_edge_kinds`).** Every edge of the finished graph of every program is a
    fall-through, the jump written in the instruction, or leads from a return to a return (the
    markup pass merges additional returns into the function's exit); `g0` is the graph as
    constructed from the parsed nodes (same instructions and labels, no edges). -/
theorem pipeline_edge_kinds (desc : Bool) (nodes : List Node) (g : Cfg)
    (h : genFullCfg desc nodes = .ok g) :
    ∃ g0 p, buildCfg nodes p = .ok g0 ∧ ∀ a b, b ∈ (g.get a).nexts →
      DirEdge g0 a b ∨ ((g0.get a).node.isReturn = true ∧ (g0.get b).node.isReturn = true) := by
  obtain ⟨p, g0, g1, e0, e1, w⟩ := pipeline_wired desc nodes g h
  obtain ⟨same, edges⟩ := directions_edges g0 g1 (buildCfg_noEdges _ _ g0 e0) e1
  refine ⟨g0, p, e0, fun a b hb => ?_⟩
  rw [← (same.2 a).2, ← (same.2 b).2, ← edges a b]
  exact w.kinds.edges a b hb

/-- **C03 (`unreachable_only_without_edge`).** Every 'unreachable code' item of the control-flow
    pass stands on a node of the finished graph that has no predecessor (and is neither the
    program entry nor a function entry); with `pipeline_symm`, no node has an edge to it. -/
theorem unreachable_only_without_edge (g : Cfg) (x : Diag) (hx : x ∈ lintControlFlow g)
    (hc : x.code = "unreachable-code") :
    ∃ cn ∈ g.nodes.toList, x = unreachableDiag cn ∧ cn.prevs = [] ∧ cn.node.isProgramEntry = false ∧
      cn.node.isFunctionEntry = false := by
  obtain ⟨cn, hcn, hx⟩ := List.mem_flatMap.mp hx
  refine ⟨cn, hcn, ?_⟩
  rcases (mem_controlFlowAt g cn x).mp hx with ⟨_, p, _, hp⟩ | ⟨e, hfe, hpe, hp⟩
  · -- the items about a function entry carry other codes: `hc` with the code looked up in the table
    rcases ((mem_entryPredDiags g cn p x).mp hp).2 with ⟨rfl, _⟩ | ⟨rfl, _⟩ <;>
      exact absurd ((code_of rfl).symm.trans hc) (by decide +kernel)
  · exact ⟨e, hp, hpe, hfe⟩

end Rva
