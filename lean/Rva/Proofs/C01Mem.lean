/-
  C01, fifth layer — stack slots.

  A memory claim `(entry-sp + off ↦ v)` means: the word at address `entry sp + off` holds `v`
  (`MemSound`). Proved: the memory transfer function (`nodeMemOut`) keeps all stack-slot claims
  true across every step that leaves the claimed slots alone and changes only registers of
  `ovSet` (`mem_silent_sound`: the frame rule for memory claims) and across word stores through a
  known stack pointer (`mem_store_sound`); a word load whose address the analysis
  resolves to a stack slot gives the destination exactly the slot's claim, truthfully
  (`load_transfer_sound`). Word-granular memory; `sb`/`sh`/`lb`/`lh` (known finding F-02),
  stores through other registers that alias a claimed slot, and calls/ecalls that write a
  claimed slot (F-04) are outside this layer.
-/
import Rva.Proofs.C01Calls
namespace Rva

def MemSound (s : MState) (m : AMap MemLoc) : Prop :=
  ∀ off v, AMap.get m (.stack off) = some v → valHolds s (s.mem (s.entry 2 + off)) v

/-- in the middle of the transfer function: memory and entry values of the state *after* the
    instruction, but "current value of register r" still refers to the state *before* it -/
def valMid (s s' : MState) (w : Word) : AVal → Prop
  | .const c => w = c
  | .addr l => w = s'.addr l
  | .ors r k => w = s'.entry r + k
  | .rs r k => w = s.reg r + k
  | _ => True

theorem valMid_of_valHolds (s s' : MState) (w : Word) (v : AVal) (hentry : s'.entry = s.entry)
    (haddr : s'.addr = s.addr) (h : valHolds s w v) : valMid s s' w v := by
  cases v with
  | addr l => exact h.trans (by rw [haddr])
  | ors r k => exact h.trans (by rw [hentry])
  | _ => exact h

def MemMid (s s' : MState) (m : AMap MemLoc) : Prop :=
  ∀ off v, AMap.get m (.stack off) = some v → valMid s s' (s'.mem (s'.entry 2 + off)) v

theorem wfMid_insert (s s' : MState) (m : AMap MemLoc) (k : MemLoc) (v : AVal)
    (hm : AMap.WF m ∧ MemMid s s' m)
    (hv : ∀ off, k = .stack off → valMid s s' (s'.mem (s'.entry 2 + off)) v) :
    AMap.WF (AMap.insert m k v) ∧ MemMid s s' (AMap.insert m k v) := by
  refine ⟨AMap.wf_insert m k v hm.1, fun off val h => ?_⟩
  rw [AMap.get_insert] at h
  split at h
  · rename_i hk; exact Option.some.inj h ▸ hv off hk.symm
  · exact hm.2 off val h

theorem pushCsr_cases (n : Node) (m : AMap MemLoc) (regOut : AMap Reg) :
    rulePushValueToCsrMemory n m regOut = m ∨
      ∃ c off v, rulePushValueToCsrMemory n m regOut = AMap.insert m (.csro c off) v := by
  unfold rulePushValueToCsrMemory
  split
  · split
    · exact Or.inr ⟨_, _, _, rfl⟩
    · exact Or.inl rfl
  · exact Or.inl rfl

/-- `rule_known_values_to_stack` only ever replaces, at the key of an entry "value of `reg` plus
    `off`" of the map it started from, that description by what the in-map knows of `reg` -/
theorem knownValues_induct (Q : AMap MemLoc → Prop) (m : AMap MemLoc) (inn : AMap Reg) (h : Q m)
    (hstep : ∀ acc k reg off v, Q acc → (k, AVal.rs reg off) ∈ m →
      ((∃ x, AMap.get inn reg = some (.const x) ∧ v = .const (x + off)) ∨
       (∃ r2 o3, AMap.get inn reg = some (.ors r2 o3) ∧ v = .ors r2 (o3 + off))) →
      Q (AMap.insert acc k v)) : Q (ruleKnownValuesToStack m inn) := by
  unfold ruleKnownValuesToStack
  refine List.foldlRecOn m (knownStep inn) h fun acc ha p hp => ?_
  unfold knownStep
  split
  · rename_i reg off heq
    have hp' : (p.1, AVal.rs reg off) ∈ m := heq ▸ hp
    split
    · rename_i x hx; exact hstep acc p.1 reg off _ ha hp' (Or.inl ⟨x, hx, rfl⟩)
    · rename_i r2 o3 hx; exact hstep acc p.1 reg off _ ha hp' (Or.inr ⟨r2, o3, hx, rfl⟩)
    · exact ha
  · exact ha

/-- the last rule turns "value of r before the instruction" back into "current value of r":
    what it keeps refers to registers the instruction did not change -/
theorem forget_mem (s s' : MState) (cn : CNode) (m : AMap MemLoc) (hw : AMap.WF m)
    (hov : ∀ r, RegSet.mem (ovSet cn) r = false → s'.reg r = s.reg r)
    (h : MemMid s s' m) : MemSound s' (ruleForgetOverwritten cn m) := by
  intro off v hget
  obtain ⟨hin, hkept⟩ := AMap.get_filter_wf m _ (.stack off) v hw hget
  have hmid := h off v hin
  cases v with
  | rs r k => exact hmid.trans (by rw [hov r (by simpa using hkept)])
  | _ => exact hmid

/-- the tail of the memory transfer function (everything after the store has been entered) -/
theorem memRules_sound (cn : CNode) (inReg : AMap Reg) (inMem mem0 : AMap MemLoc) (regOut : AMap Reg)
    (s s' : MState) (hw0 : AMap.WF mem0) (hs : Sound s inReg) (hz : s.reg 0 = 0#32)
    (he0 : s'.entry 0 = 0#32) (hentry : s'.entry = s.entry) (haddr : s'.addr = s.addr)
    (hov : ∀ r, RegSet.mem (ovSet { cn with regIn := inReg }) r = false → s'.reg r = s.reg r)
    (h0 : MemMid s s' mem0) :
    MemSound s' (ruleForgetOverwritten { cn with regIn := inReg }
      (ruleKnownValuesToStack (rulePushValueToCsrMemory cn.node (zeroConsts mem0 inMem) regOut) inReg)) := by
  -- one entry per key and the claims, through the three rules that only insert
  let Q := fun m => AMap.WF m ∧ MemMid s s' m
  have h4 : Q (zeroConsts mem0 inMem) := by
    refine zeroConsts_induct Q mem0 inMem ⟨hw0, h0⟩ fun acc k i ha hk => ?_
    refine wfMid_insert s s' acc k _ ha fun off hko => ?_
    rcases hk with hk | hk
    · have : s'.mem (s'.entry 2 + off) = s'.entry 0 + i := ha.2 off (.ors 0 i) (hko ▸ hk)
      exact this.trans (by rw [he0]; simp)
    · have : s'.mem (s'.entry 2 + off) = s.reg 0 + i := ha.2 off (.rs 0 i) (hko ▸ hk)
      exact this.trans (by rw [hz]; simp)
  have h5 : Q (rulePushValueToCsrMemory cn.node (zeroConsts mem0 inMem) regOut) := by
    rcases pushCsr_cases cn.node (zeroConsts mem0 inMem) regOut with e | ⟨c, off, v, e⟩ <;> rw [e]
    · exact h4
    · exact wfMid_insert s s' _ _ _ h4 nofun
  generalize rulePushValueToCsrMemory cn.node (zeroConsts mem0 inMem) regOut = m5 at h5
  have h6 : Q (ruleKnownValuesToStack m5 inReg) := by
    refine knownValues_induct Q m5 inReg h5 fun acc k reg off v ha hp hv => ?_
    refine wfMid_insert s s' acc k _ ha fun o hko => ?_
    have hslot : s'.mem (s'.entry 2 + o) = s.reg reg + off :=
      h5.2 o (.rs reg off) (hko ▸ AMap.get_of_mem m5 k _ h5.1 hp)
    rcases hv with ⟨x, hx, rfl⟩ | ⟨r2, o3, hx, rfl⟩
    · exact hslot.trans (by rw [show s.reg reg = x from hs reg _ hx])
    · exact hslot.trans (by rw [show s.reg reg = s.entry r2 + o3 from hs reg _ hx, hentry, BitVec.add_assoc])
  exact forget_mem s s' _ _ h6.1 hov h6.2

/-- The frame rule for memory claims: at a node that enters no store, every stack-slot claim
    stays true if the instruction leaves the claimed slots alone and changes only registers the
    analysis knows it overwrites. -/
theorem mem_silent_sound (cn : CNode) (inReg : AMap Reg) (inMem : AMap MemLoc) (regOut : AMap Reg)
    (s s' : MState) (hnotentry : cn.node.isAnyEntry = false) (hgen : cn.node.genMemoryValue = none)
    (hw : AMap.WF inMem) (hs : Sound s inReg) (hm : MemSound s inMem) (hz : s.reg 0 = 0#32)
    (he0 : s.entry 0 = 0#32) (hentry : s'.entry = s.entry) (haddr : s'.addr = s.addr)
    (hov : ∀ r, RegSet.mem (ovSet { cn with regIn := inReg }) r = false → s'.reg r = s.reg r)
    (hslots : ∀ off v, AMap.get inMem (.stack off) = some v →
      s'.mem (s.entry 2 + off) = s.mem (s.entry 2 + off)) :
    MemSound s' (nodeMemOut cn inReg inMem regOut) := by
  unfold nodeMemOut
  simp only [hnotentry, Bool.false_eq_true, if_false, hgen]
  refine memRules_sound cn inReg inMem inMem regOut s s' hw hs hz (hentry ▸ he0) hentry haddr hov ?_
  intro off v hget
  rw [hentry, hslots off v hget]
  exact valMid_of_valHolds s s' _ v hentry haddr (hm off v hget)

theorem stackOffset_sound (s : MState) (inReg : AMap Reg) (cur : Word) (hs : Sound s inReg)
    (h : stackOffset inReg = some cur) : s.reg 2 = s.entry 2 + cur := by
  unfold stackOffset at h
  split at h
  · rename_i r off heq
    split at h
    · rename_i hr
      obtain rfl : r = 2 := by simpa using hr
      exact Option.some.inj h ▸ hs 2 _ heq
    · cases h
  · cases h

/-- A store through the stack pointer, `sx rs2, imm(sp)` with sp at a known position (memory is
    word-granular in the step relation; the width of the store is not looked at: F-02)
    records "slot = value of rs2" and leaves every other claimed slot true. -/
theorem mem_store_sound (cn : CNode) (inReg : AMap Reg) (inMem : AMap MemLoc) (regOut : AMap Reg)
    (s s' : MState) (i : W String) (rs1 rs2 : W Reg) (imm : W Word) (t : RawTok) (cur : Word)
    (hn : cn.node = .store i rs1 rs2 imm t) (hsp : rs1.val = 2) (hcur : stackOffset inReg = some cur)
    (hw : AMap.WF inMem) (hs : Sound s inReg) (hm : MemSound s inMem) (hz : s.reg 0 = 0#32)
    (he0 : s.entry 0 = 0#32) (hentry : s'.entry = s.entry) (haddr : s'.addr = s.addr)
    (hreg : ∀ r, s'.reg r = s.reg r)
    (hstore : ∀ a, s'.mem a = if a = s.reg 2 + imm.val then s.reg rs2.val else s.mem a) :
    MemSound s' (nodeMemOut cn inReg inMem regOut) := by
  have haddr_w : s.reg 2 + imm.val = s.entry 2 + (cur + imm.val) := by
    rw [stackOffset_sound s inReg cur hs hcur, BitVec.add_assoc]
  unfold nodeMemOut
  have hne : cn.node.isAnyEntry = false := by rw [hn]; rfl
  have hgen : cn.node.genMemoryValue = some (.stack imm.val, .rs rs2.val 0#32) := by
    rw [hn]; simp [Node.genMemoryValue, hsp]
  simp only [hne, Bool.false_eq_true, if_false, hgen, hcur]
  refine memRules_sound cn inReg inMem _ regOut s s' (AMap.wf_insert _ _ _ hw) hs hz
    (hentry ▸ he0) hentry haddr (fun r _ => hreg r) ?_
  intro off v hget
  rw [AMap.get_insert] at hget
  split at hget
  · rename_i hk
    obtain rfl : off = cur + imm.val := by injection hk
    obtain rfl := Option.some.inj hget
    show s'.mem (s'.entry 2 + (cur + imm.val)) = s.reg rs2.val + 0#32
    rw [hentry, hstore, ← haddr_w]; simp
  · rename_i hk
    have hsame : s'.mem (s'.entry 2 + off) = s.mem (s.entry 2 + off) := by
      rw [hentry, hstore, haddr_w, if_neg]
      exact fun e => hk (congrArg MemLoc.stack ((BitVec.add_right_inj _).mp e))
    rw [hsame]
    exact valMid_of_valHolds s s' _ v hentry haddr (hm off v hget)

structure LoadStep (s s' : MState) (rd rs1 : Reg) (imm : Word) : Prop where
  wr : rd ≠ 0 → s'.reg rd = s.mem (s.reg rs1 + imm)
  keep : ∀ r, r ≠ rd → s'.reg r = s.reg r
  zero : s'.reg 0 = s.reg 0
  entry : s'.entry = s.entry
  addr : s'.addr = s.addr
  mem : s'.mem = s.mem

theorem LoadStep.plain {s s' : MState} {rd rs1 : Reg} {imm : Word} (h : LoadStep s s' rd rs1 imm) :
    PlainStep s s' rd (s.mem (s.reg rs1 + imm)) := ⟨h.wr, h.keep, h.zero, h.entry, h.addr⟩

/-- in the form of `insertGen`, so that `get_insertGen` reads the rule's entry like the
    generated one -/
theorem expandAddress_load (i : W String) (rd rs1 : W Reg) (imm : W Word) (t : RawTok) (out inn : AMap Reg) :
    ∃ g, ruleExpandAddressForLoad (.load i rd rs1 imm t) out inn = insertGen out g ∧
      ∀ p, g = some p → p.1 = rd.val ∧ ((∃ l, p.2 = .mem l imm.val) ∨
        ∃ r off, AMap.get inn rs1.val = some (.ors r off) ∧ p.2 = .omr r (off + imm.val)) := by
  dsimp only [ruleExpandAddressForLoad]
  split
  · exact ⟨none, rfl, fun _ e => nomatch e⟩
  · split
    · rename_i r off heq
      exact ⟨some (_, _), rfl, fun _ e => Option.some.inj e ▸ ⟨rfl, .inr ⟨r, off, heq, rfl⟩⟩⟩
    · exact ⟨some (_, _), rfl, fun _ e => Option.some.inj e ▸ ⟨rfl, .inl ⟨_, rfl⟩⟩⟩
    · exact ⟨none, rfl, fun _ e => nomatch e⟩

/-- the map the stack rule starts from at a load: claims of the in-map about registers the load
    does not overwrite, and at the destination a description of the memory read -/
theorem get_expandAddress_load (cn : CNode) (inReg : AMap Reg) (i : W String) (rd rs1 : W Reg) (imm : W Word)
    (t : RawTok) (hn : cn.node = .load i rd rs1 imm t) (k : Reg) (x : AVal)
    (h : AMap.get (ruleExpandAddressForLoad cn.node (preRules cn inReg) inReg) k = some x) :
    AMap.get inReg k = some x ∧ RegSet.mem (plainKill rd.val) k = false ∨
    k = rd.val ∧ (x = .mr rs1.val imm.val ∨ (∃ l, x = .mem l imm.val) ∨
      ∃ r off, AMap.get inReg rs1.val = some (.ors r off) ∧ x = .omr r (off + imm.val)) := by
  have hnent : cn.node.isAnyEntry = false := by rw [hn]; rfl
  obtain ⟨g, hR, hg⟩ := expandAddress_load i rd rs1 imm t (preRules cn inReg) inReg
  rw [hn, hR] at h
  rcases get_insertGen _ g k x h with h | h
  · exact .inr ⟨(hg _ h).1, .inr (hg _ h).2⟩
  rcases get_preRules cn inReg hnent k x h with h | ⟨h, hk⟩
  · rw [hn] at h
    obtain ⟨h, _⟩ := guard_zero_some _ k x h
    dsimp only at h
    split at h <;> cases h
    exact .inr ⟨rfl, .inl rfl⟩
  · rw [ovSet_writes cn inReg rd (by rw [hn]; rfl) (by rw [hn]; rfl) hnent (by rw [hn]; rfl)] at hk
    exact .inl ⟨h, hk⟩

/-- **C01 (`load_transfer_sound`).** A word load (`rs1 ≠ rd`, the base register not claimed to
    hold a CSR value): the out-map is sound — in particular, when the analysis resolves the
    address to a stack slot with a claim, the destination receives that claim and it is true of
    the loaded word (given the slot claims are true, `MemSound`). -/
theorem load_transfer_sound (cn : CNode) (inReg : AMap Reg) (inMem : AMap MemLoc) (s s' : MState)
    (i : W String) (rd rs1 : W Reg) (imm : W Word) (t : RawTok)
    (hn : cn.node = .load i rd rs1 imm t) (hwl : isWordLoad i.val = true) (hrd : rd.val < 32)
    (hne : rs1.val ≠ rd.val)
    (hbase : ∀ c, AMap.get inReg rs1.val ≠ some (.vcsr c))
    (hz : s.reg 0 = 0#32) (he0 : s.entry 0 = 0#32) (hs : Sound s inReg) (hm : MemSound s inMem)
    (hstep : LoadStep s s' rd.val rs1.val imm.val) : Sound s' (nodeRegOut cn inReg inMem) := by
  have key := get_expandAddress_load cn inReg i rd rs1 imm t hn
  generalize hR : ruleExpandAddressForLoad cn.node (preRules cn inReg) inReg = R1 at key
  refine rulesFrom_sound cn inReg inMem s' R1 hR (hstep.entry ▸ he0) ?_ ?_ ?_
    (fun rd' v _ _ hmr => by rw [hn] at hmr; cases hmr)
  · intro k x _ hx
    rcases key k x hx with ⟨hin, hk⟩ | ⟨rfl, rfl | ⟨l, rfl⟩ | ⟨r, off, _, rfl⟩⟩
    · exact claim_frame s s' k x (hstep.plain.frame hrd k hk) hstep.entry hstep.addr (hs k x hin)
    all_goals trivial
  · -- the stack rule: a slot of the frame named at the destination is the slot the word is
    -- loaded from, so what the rule pulls is that slot's claim
    intro rd' x hw' h0 hx
    obtain rfl : rd = rd' := by rw [hn] at hw'; exact Option.some.inj hw'
    rcases key _ x hx with ⟨_, hk⟩ | ⟨_, rfl | ⟨l, rfl⟩ | ⟨r, off, hb, rfl⟩⟩
    · rw [(mem_plainKill _ _ hrd).mpr ⟨rfl, h0⟩] at hk; cases hk
    · exact ⟨fun _ => nofun, fun _ _ => nofun⟩
    · exact ⟨fun _ => nofun, fun _ _ => nofun⟩
    · refine ⟨fun _ => nofun, fun o v e hv => ?_⟩
      obtain ⟨rfl, rfl⟩ := AVal.omr.inj e
      refine claim_of_val s s' rd.val _ v hz ?_ hstep.entry hstep.addr (hm _ v hv)
      rw [hstep.wr h0, show s.reg rs1.val = s.entry 2 + off from hs rs1.val _ hb, BitVec.add_assoc]
  · -- the CSR pull does not apply: the base register does not hold a CSR value
    unfold rulePullValueFromCsrMemory
    rw [hn]
    simp only [Node.readsFromMemory, ruleValueFromStack, Node.writesTo]
    rw [get_pullStack_ne _ _ _ _ hne, get_pullCsr_ne _ _ _ _ hne]
    split
    · rename_i c heq
      rcases key _ _ heq with ⟨hin, _⟩ | ⟨e, _⟩
      · exact absurd hin (hbase c)
      · exact absurd e hne
    · rfl

/-- the meet at a join keeps the slot claims of the predecessor actually taken -/
theorem meetOver_memSound (s : MState) (l : List (AMap MemLoc)) (hw : ∀ m ∈ l, AMap.WF m) (o : AMap MemLoc)
    (ho : o ∈ l) (hs : MemSound s o) : MemSound s (meetOver l) :=
  fun off v h => hs off v (AMap.get_meetOver l hw o ho _ v h)

structure GoodFactsM (g : Cfg) (V : List Nat) : Prop extends GoodFacts g V where
  wfMemIn : ∀ i, AMap.WF (g.get i).memIn
  wfMemOut : ∀ i, AMap.WF (g.get i).memOut
  eqMemIn : ∀ i, i ∈ V → ∀ k, AMap.get (g.get i).memIn k =
    AMap.get (meetOver (((g.get i).prevs.filter V.contains).map fun p => (g.get p).memOut)) k
  eqMemOut : ∀ i, i ∈ V → ∀ k, AMap.get (g.get i).memOut k =
    AMap.get (nodeMemOut (g.get i) (g.get i).regIn (g.get i).memIn (g.get i).regOut) k

theorem edge_memSound (g : Cfg) (V : List Nat) (hf : GoodFactsM g V) (i j : Nat) (hi : i ∈ V) (hj : j ∈ V)
    (hedge : i ∈ (g.get j).prevs) (s : MState)
    (h : MemSound s (nodeMemOut (g.get i) (g.get i).regIn (g.get i).memIn (g.get i).regOut)) :
    MemSound s (g.get j).memIn :=
  fun off v hr => h off v (hf.eqMemOut i hi _ ▸
    get_meet_edge g V (·.memOut) hf.wfMemOut i j hi hedge _ v (hf.eqMemIn j hj _ ▸ hr))

/-- the hypothesis of `exec_sound_mem` is decidable: the two checks the driver evaluates for
    every generated program (stage `good`: `GOODFACTS`, `GOODMEM`) imply `GoodFactsM` -/
theorem goodMemFactsB_sound (g : Cfg) (V : List Nat) (hv : V.all (· < g.nodes.size) = true)
    (h1 : goodFactsB g V = true) (h2 : goodMemFactsB g V = true) : GoodFactsM g V := by
  have base := goodFactsB_sound g V hv h1
  obtain ⟨a, b, c, d⟩ := factsB_sound g V (·.memIn) (·.memOut)
    (fun cn => nodeMemOut cn cn.regIn cn.memIn cn.regOut) ⟨rfl, rfl⟩ base.vlt h2
  exact { base with wfMemIn := a, wfMemOut := b, eqMemIn := c, eqMemOut := d }

end Rva
