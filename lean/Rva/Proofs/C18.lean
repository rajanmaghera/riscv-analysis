/-
  C18 — rendering: the three-line excerpt of `PrettyPrint::format_region` (Model/Render). The
  markers stand under the characters the diagnostic reports (`marker_under_reported`), the
  marker line holds nothing but spaces, tabs and markers (`marker_cells`), and the gutter bars
  of the three lines are in one column (`excerpt_aligned`).
  Ordering (`sortDiags_sorted`, C10) and the title/severity tables (Proofs/Tables) complete the
  static part; agreement of the channels is checked on the real CLI and library.
-/
import Rva.Model.Render
namespace Rva

theorem formatMarker_eq (text : List Char) (f start stop : Nat) : ∃ pad : List Char,
    formatMarker text f start stop = pad ++ List.replicate (stop + 1 - start) '^' ∧
    pad.length = start - f ∧ ∀ c ∈ pad, c = ' ' ∨ c = '\t' := by
  refine ⟨_, rfl, ?_, ?_⟩
  · simp only [List.length_append, List.length_map, List.length_take, List.length_replicate]
    omega
  · intro c hc
    rcases List.mem_append.mp hc with h | h
    · obtain ⟨d, _, rfl⟩ := List.mem_map.mp h
      split
      · right; simpa [isBlank] using ‹isBlank d = true›
      · left; rfl
    · left; exact List.eq_of_mem_replicate h

/-- **C18 (`region_marks_columns`).** Where the markers are, in cells of the marker line. The
    subtraction `start - f` is truncated: when the reported column lies in what was cut from the
    left this says nothing useful; `marker_under_reported` is the statement about the characters
    of the source line. -/
theorem region_marks_columns (text : List Char) (f start stop : Nat) (i : Nat) :
    (formatMarker text f start stop)[i]? = some '^' ↔
      (start - f ≤ i ∧ i < (start - f) + (stop + 1 - start)) := by
  obtain ⟨pad, he, hl, hp⟩ := formatMarker_eq text f start stop
  rw [he, List.getElem?_append, hl]
  split
  · constructor
    · intro h
      rcases hp _ (List.mem_of_getElem? h) with h | h <;> exact absurd h (by decide)
    · omega
  · rw [List.getElem?_replicate]
    constructor
    · intro h; split at h
      · omega
      · cases h
    · intro h; rw [if_pos (by omega)]

/-- **C18 (`marker_cells`).** The marker line consists of spaces, tabs and markers only: no
    character of the source line that could move the cursor (a carriage return of a CRLF file, a
    form feed) reaches it. -/
theorem marker_cells (text : List Char) (f start stop : Nat) :
    ∀ c ∈ formatMarker text f start stop, c = ' ' ∨ c = '\t' ∨ c = '^' := by
  obtain ⟨pad, he, _, hp⟩ := formatMarker_eq text f start stop
  intro c hc
  rw [he] at hc
  rcases List.mem_append.mp hc with h | h
  · exact (hp c h).elim .inl (.inr ∘ .inl)
  · exact .inr (.inr (List.eq_of_mem_replicate h))

theorem gutter_bar (pre rest : List Char) (n : Nat) (h : pre.length = n + 1) :
    (pre ++ ' ' :: '|' :: rest)[n + 2]? = some '|' := by
  rw [List.getElem?_append_right (by omega), h, Nat.add_sub_add_left]; rfl

theorem gutter_drop (pre body : List Char) (n : Nat) (h : pre.length = n + 1) :
    (pre ++ ' ' :: '|' :: ' ' :: body).drop (n + 4) = body := by
  rw [List.drop_append, h, List.drop_eq_nil_of_le (by omega), Nat.add_sub_add_left]; rfl

/-- **C18 (`excerpt_aligned`).** In the three-line excerpt the gutter bar stands in the same
    column of every line, and the source text and the marker line start in the same column: the
    markers are under the characters they are counted from, for every line number (1, 9, 10, 100,
    …), every text and every range. -/
theorem excerpt_aligned (text : List Char) (line start stop : Nat) :
    let num := (toString (line + 1)).toList
    let ls := formatRegion text line start stop
    ls.length = 3 ∧
    (∀ l ∈ ls, l[num.length + 2]? = some '|') ∧
    (ls[1]?.map (·.drop (num.length + 4)) = some (trimWs text)) ∧
    (ls[2]?.map (·.drop (num.length + 4)) = some (formatMarker text (firstNonWs text) start stop)) := by
  -- the string literals as lists, once (by `rfl` each costs more than all the rest)
  simp only [formatRegion, String.reduceToList, List.append_assoc]
  generalize (toString (line + 1)).toList = num
  have hs : (List.replicate (num.length + 1) ' ').length = num.length + 1 := List.length_replicate
  have hn : ([' '] ++ num).length = num.length + 1 := rfl
  refine ⟨rfl, ?_, congrArg some (gutter_drop _ _ _ hn), congrArg some (gutter_drop _ _ _ hs)⟩
  intro l hl
  simp only [List.mem_cons, List.mem_nil_iff, or_false] at hl
  rcases hl with rfl | rfl | rfl
  · exact gutter_bar _ [] _ hs
  · exact gutter_bar _ _ _ hn
  · exact gutter_bar _ _ _ hs

theorem firstNonWs_spec (text : List Char) (k : Nat) (c : Char)
    (hk : text[k]? = some c) (hc : isLeadBlank c = false) :
    firstNonWs text ≤ k ∧ text.dropWhile isLeadBlank = text.drop (firstNonWs text) := by
  obtain ⟨hlt, rfl⟩ := List.getElem?_eq_some_iff.mp hk
  have hf : firstNonWs text = text.findIdx (fun c => !isLeadBlank c) := by
    unfold firstNonWs
    rw [List.findIdx?_eq_some_of_exists ⟨_, List.getElem_mem hlt, by rw [hc]; rfl⟩]
  rw [hf]
  refine ⟨Nat.le_of_not_lt fun h => ?_, List.dropWhile_eq_drop_findIdx_not⟩
  have := List.not_of_lt_findIdx h
  rw [hc] at this
  cases this

/-- **C18 (`marker_under_reported`).** When the reported start column holds a character that is
    not blank space (every token the lexer produces starts with one), nothing at or after it is cut
    from the left, and the markers stand under exactly the characters of the source line that the
    diagnostic reports. -/
theorem marker_under_reported (text : List Char) (start stop : Nat) (c : Char)
    (hk : text[start]? = some c) (hc : isLeadBlank c = false) (i : Nat) :
    (i < (trimWs text).length → (trimWs text)[i]? = text[firstNonWs text + i]?) ∧
    ((formatMarker text (firstNonWs text) start stop)[i]? = some '^' ↔
      (start ≤ firstNonWs text + i ∧ firstNonWs text + i ≤ stop)) := by
  obtain ⟨hle, hdrop⟩ := firstNonWs_spec text start c hk hc
  constructor
  · intro hi
    -- trimming from the right leaves a prefix of what the left cut leaves
    have hp : trimWs text <+: text.drop (firstNonWs text) :=
      hdrop ▸ List.reverse_reverse (text.dropWhile isLeadBlank) ▸
        List.reverse_prefix.mpr (List.dropWhile_suffix isWsChar)
    rw [← List.getElem?_drop, List.getElem?_eq_getElem hi, hp.getElem hi, List.getElem?_eq_getElem]
  · rw [region_marks_columns]
    omega

/-- non-vacuity: a line indented with a no-break space - the character stays, the marker is under it -/
example : formatRegion "\u00a0\u00a0addi a0, a0, 1".toList 1 0 0 =
    ["   |".toList, " 2 | \u00a0\u00a0addi a0, a0, 1".toList, "   | ^".toList] := by decide +kernel

end Rva
