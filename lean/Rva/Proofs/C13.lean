/-
  C13 — surface independence, the parts that are properties of single functions: the token the lexer
  yields does not depend on where among the preceding blanks (spaces, tabs, commas, carriage returns:
  `blanks`) it starts, so optional commas and any amount of spacing between tokens are invisible to
  the parser; mnemonics and directive names are looked up after lower-casing; immediates written in
  different notations are read alike (C17). The composition over whole programs (same diagnostics on
  the same instructions) is carried by the metamorphic check on the real code and the model.
-/
import Rva.Proofs.C17
import Rva.Model.Parser
namespace Rva
open Cursor

theorem skipWs_stop (src : Array Char) (c : Cursor) :
    match src[(skipWs src c).pos]? with
    | some ch => isWs ch = false
    | none => True := by
  fun_induction skipWs src c with
  | case1 c ch hc hw ih => exact ih
  | case2 c ch hc hw => rw [hc]; simpa using hw
  | case3 c hc => rw [hc]; trivial

theorem skipWs_idem (src : Array Char) (c : Cursor) : skipWs src (skipWs src c) = skipWs src c := by
  have h := skipWs_stop src c
  generalize skipWs src c = d at h
  rw [skipWs]
  split
  · rename_i ch hc
    rw [hc] at h
    simp [h]
  · rfl

/-- **C13 (spacing, optional commas).** The next token is the same from every position among
    the blanks that precede it. -/
theorem lexNext_skipWs (src : Array Char) (c : Cursor) : lexNext src (skipWs src c) = lexNext src c := by
  unfold lexNext
  rw [skipWs_idem]

theorem blanks : isWs ' ' = true ∧ isWs '\t' = true ∧ isWs ',' = true ∧ isWs '\r' = true := by decide +kernel

theorem inst_case_insensitive (s t : String) (h : lowerStr s = lowerStr t) :
    instFromStr s = instFromStr t := by
  unfold instFromStr; rw [h]

theorem directive_case_insensitive (s t : String) (h : lowerStr s = lowerStr t) :
    directiveFromStr s = directiveFromStr t := by
  unfold directiveFromStr; rw [h]

/-- **C13 (immediate notation).** A register-or-immediate token is read through `immFromStr`;
    equal denotations give equal immediates (C17). -/
theorem imm_notation (s t : String) (hs : '+' ∉ normLit s.toList) (ht : '+' ∉ normLit t.toList)
    (h : Spec.denote s.toList = Spec.denote t.toList) : immFromStr s = immFromStr t :=
  notation_independent s.toList t.toList hs ht h

end Rva
