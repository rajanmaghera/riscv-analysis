/-
  C17 — numeric literals mean what they say.

  `imm_spec`: the model of `Imm::from_str` accepts a literal exactly when the integer it denotes
  (`Spec.denote`, unbounded) fits in 32 bits, and then returns its low 32 bits. Hence nothing is
  truncated or wrapped to a different number (`imm_sound`), everything that fits is accepted in
  every notation (`imm_complete`, `notation_independent`), and everything else is rejected
  (`imm_rejects`). The digit loop with its overflow check is `parseU32Digits_eq`.

  Hypothesis `'+' ∉ normLit s`: Rust's `u32::from_str_radix` accepts one leading '+'. No token
  the lexer produces contains '+' (`isSymbolItem`), so source text cannot reach that case; the
  direct API can, and the correspondence check exercises it.
-/
import Rva.Spec.Literal
namespace Rva
open Spec

theorem foldl_ge (r : Nat) (hr : 1 ≤ r) (ds : List Nat) (a : Nat) :
    a ≤ ds.foldl (fun a d => a * r + d) a := by
  induction ds generalizing a with
  | nil => exact Nat.le_refl a
  | cons d ds ih => exact Nat.le_trans (Nat.le_add_right_of_le (Nat.le_mul_of_pos_right a hr)) (ih _)

theorem parseU32Digits_eq (r : Nat) (hr : 1 ≤ r) (cs : List Char) (acc : Nat) (hacc : acc < 2 ^ 32) :
    parseU32Digits r cs acc =
      match cs.mapM (digitVal r) with
      | none => none
      | some ds =>
        let v := ds.foldl (fun a d => a * r + d) acc
        if v < 2 ^ 32 then some v else none := by
  induction cs generalizing acc with
  | nil => exact (if_pos hacc).symm
  | cons c cs ih =>
    simp only [parseU32Digits, List.mapM_cons]
    cases digitVal r c with
    | none => rfl
    | some d =>
      simp only [Option.pure_def, Option.bind_eq_bind, Option.bind_some]
      split
      · next hlt => rw [ih _ hlt]; cases cs.mapM (digitVal r) <;> rfl
      · next hlt =>
        cases cs.mapM (digitVal r) with
        | none => rfl
        | some ds =>
          -- once past 2^32 the accumulator stays there
          have := foldl_ge r hr ds (acc * r + d)
          exact (if_neg (by rw [List.foldl_cons]; omega)).symm

theorem signedMagnitude_eq (neg : Bool) (m : Nat) (hm : m < 2 ^ 32) :
    signedMagnitude neg m = fits32 (signed neg m) := by
  unfold signedMagnitude fits32 signed
  generalize (if neg = true then -(m : Int) else (m : Int)) = v
  by_cases h1 : -(2:Int) ^ 31 ≤ v ∧ v < 2 ^ 31
  · rw [if_pos h1, if_pos (by omega)]
  · rw [if_neg h1]
    by_cases h2 : (0:Int) ≤ v ∧ v < 2 ^ 32
    · rw [if_pos h2, if_pos (by omega)]
    · rw [if_neg h2, if_neg (by omega)]

theorem digitVal_minus (r : Nat) : digitVal r '-' = none := by
  simp [digitVal]

theorem parseU32_eq (r : Nat) (hr : 1 ≤ r) (cs : List Char) (hplus : '+' ∉ cs) :
    parseU32 r cs = (natOfDigits r cs).bind (fun m => if m < 2 ^ 32 then some m else none) := by
  unfold parseU32 natOfDigits
  split
  · simp
  · simp at hplus
  · simp [digitVal_minus]
  · simp at hplus
  · next hne _ _ _ =>
    have hne : cs ≠ [] := hne
    rw [parseU32Digits_eq r hr cs 0 (by decide)]
    cases cs.mapM (digitVal r) <;> simp [hne, digitsValue]

theorem fits32_big (neg : Bool) (m : Nat) (hm : ¬ m < 2 ^ 32) :
    fits32 (signed neg m) = none := by
  unfold fits32 signed
  cases neg <;> simp only [Bool.false_eq_true, if_false, if_true] <;> rw [if_neg (by omega)]

theorem natOfDigits_minus (r : Nat) (ds : List Char) (h : ds.head? = some '-') :
    natOfDigits r ds = none := by
  match ds, h with
  | c :: rest, h =>
    simp at h; subst h
    simp [natOfDigits, digitVal_minus]

theorem branch_eq (r : Nat) (hr : 1 ≤ r) (neg : Bool) (ds : List Char) (hplus : '+' ∉ ds) :
    (if ds.head? == some '-' then none else (parseU32 r ds).bind (signedMagnitude neg)) =
      ((natOfDigits r ds).map (signed neg)).bind fits32 := by
  split
  · next h => rw [natOfDigits_minus r ds (beq_iff_eq.mp h)]; rfl
  · rw [parseU32_eq r hr ds hplus]
    cases natOfDigits r ds with
    | none => rfl
    | some m =>
      simp only [Option.bind_some, Option.map_some]
      by_cases hm : m < 2 ^ 32
      · rw [if_pos hm]; exact signedMagnitude_eq neg m hm
      · rw [if_neg hm, fits32_big neg m hm]; rfl

theorem imm_body_eq (neg : Bool) (s : List Char) (hplus : '+' ∉ s) :
    immBody neg s = (denoteBody neg s).bind fits32 := by
  unfold immBody denoteBody
  split
  · cases neg <;> rfl
  · split
    · exact branch_eq 16 (by decide) neg _ fun h => hplus (.tail _ (.tail _ h))
    · exact branch_eq 2 (by decide) neg _ fun h => hplus (.tail _ (.tail _ h))
    · next h1 h2 =>
      have hm : magnitude s = natOfDigits 10 s := by
        unfold magnitude
        split
        · exact (h1 _ rfl).elim
        · exact (h2 _ rfl).elim
        · rfl
      rw [hm]
      exact branch_eq 10 (by decide) neg s hplus

theorem imm_core_eq (s : List Char) (hplus : '+' ∉ s) :
    immCore s = (denoteCore s).bind fits32 := by
  unfold immCore denoteCore
  split
  · exact imm_body_eq true _ fun h => hplus (.tail _ h)
  · next h1 =>
    split
    · exact (h1 _ rfl).elim
    · exact imm_body_eq false s hplus

theorem imm_spec (s : List Char) (hplus : '+' ∉ normLit s) :
    immFromChars s = (denote s).bind fits32 :=
  imm_core_eq (normLit s) hplus

theorem fits32_eq_some {d : Int} {v : Word} :
    fits32 d = some v ↔ (-(2 : Int) ^ 31 ≤ d ∧ d < (2 : Int) ^ 32) ∧ v = BitVec.ofInt 32 d := by
  unfold fits32
  split <;> rename_i h
  · exact ⟨fun e => ⟨h, (Option.some.inj e).symm⟩, fun e => e.2 ▸ rfl⟩
  · exact ⟨nofun, fun e => absurd e.1 h⟩

theorem imm_iff (s : List Char) (hplus : '+' ∉ normLit s) (v : Word) :
    immFromChars s = some v ↔
      ∃ d : Int, denote s = some d ∧ -(2 : Int) ^ 31 ≤ d ∧ d < (2 : Int) ^ 32 ∧ v = BitVec.ofInt 32 d := by
  simp only [imm_spec s hplus, Option.bind_eq_some_iff, fits32_eq_some, and_assoc]

/-- Accepted literals are never truncated or wrapped to a different number: the value is the
    low 32 bits of the denoted integer, and that integer fits in 32 bits. -/
theorem imm_sound (s : List Char) (hplus : '+' ∉ normLit s) (v : Word)
    (h : immFromChars s = some v) :
    ∃ d : Int, denote s = some d ∧ -(2 : Int) ^ 31 ≤ d ∧ d < (2 : Int) ^ 32 ∧ v = BitVec.ofInt 32 d :=
  (imm_iff s hplus v).mp h

/-- Every literal whose value fits in 32 bits is accepted, in every notation. -/
theorem imm_complete (s : List Char) (hplus : '+' ∉ normLit s) (d : Int)
    (hd : denote s = some d) (h1 : -(2 : Int) ^ 31 ≤ d) (h2 : d < (2 : Int) ^ 32) :
    immFromChars s = some (BitVec.ofInt 32 d) :=
  (imm_iff s hplus _).mpr ⟨d, hd, h1, h2, rfl⟩

/-- Malformed literals and literals that do not fit in 32 bits are rejected. -/
theorem imm_rejects (s : List Char) (hplus : '+' ∉ normLit s)
    (h : denote s = none ∨ ∃ d, denote s = some d ∧ (d < -(2 : Int) ^ 31 ∨ (2 : Int) ^ 32 ≤ d)) :
    immFromChars s = none := by
  refine Option.eq_none_iff_forall_ne_some.mpr fun v hv => ?_
  obtain ⟨d, hd, h1, h2, _⟩ := (imm_iff s hplus v).mp hv
  rw [hd] at h
  obtain h | ⟨_, h, hr⟩ := h <;> cases h
  omega

theorem notation_independent (s t : List Char) (hs : '+' ∉ normLit s) (ht : '+' ∉ normLit t)
    (h : denote s = denote t) : immFromChars s = immFromChars t := by
  rw [imm_spec s hs, imm_spec t ht, h]

-- Non-vacuity: concrete literals meet the hypotheses and hit every branch.
example : immFromChars "-0x80000000".toList = some (BitVec.intMin 32) := by decide +kernel
example : immFromChars "-2147483648".toList = some (BitVec.intMin 32) := by decide +kernel
example : immFromChars "0xFFFFFFFF".toList = some (-1#32) := by decide +kernel
example : immFromChars "4294967295".toList = some (-1#32) := by decide +kernel
example : immFromChars "-0xFFFFFFFF".toList = none := by decide +kernel
example : immFromChars "4294967296".toList = none := by decide +kernel
example : immFromChars "0b101".toList = some 5#32 := by decide +kernel
example : denote "-0X10".toList = some (-16) := by decide +kernel
example : '+' ∉ normLit " 0x1F ".toList := by decide +kernel

end Rva
