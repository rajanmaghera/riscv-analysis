/-
  C05 — the two searches behind the located diagnostics. The forward search for the first use
  (`error_ranges_for_first_usage`): down a straight line of single successors it returns the first
  read of the register (`firstUsage_at_distance`; `firstUsage_next` is the line of length one), so
  `invalid-use-after-call` after a call site and `invalid-use-before-assignment` from the program
  entry are reported on that operand. The backward search for the first store: a writer that
  directly precedes a function's exit is found, so `overwrite-callee-saved-register` is reported
  on it.
-/
import Rva.Proofs.C05b
namespace Rva

def Chain (g : Cfg) : List Nat → Prop
  | [] => True
  | [_] => True
  | a :: b :: rest => (g.get a).nexts = [b] ∧ Chain g (b :: rest)

theorem level_single (g : Cfg) (item : Reg) (n p : Nat) (visited : List Nat) (hp : p ∉ visited) :
    firstUsage.level g item (n + 1) [p] visited =
      if RegSet.mem (g.get p).node.genReg item then [(readsSet (g.get p).node).find? (·.val == item)]
      else firstUsage.level g item n (g.get p).nexts (visited ++ [p]) := by
  rw [firstUsage.level]
  cases h : RegSet.mem (g.get p).node.genReg item <;> simp [hp, insNat, h]

theorem level_chain (g : Cfg) (item : Reg) (last : Nat)
    (hlast : RegSet.mem (g.get last).node.genReg item = true) :
    ∀ (path : List Nat) (a : Nat) (visited : List Nat) (n : Nat), path.length ≤ n →
      Chain g (a :: (path ++ [last])) → (path ++ [last]).Nodup →
      (∀ x ∈ path ++ [last], x ∉ visited) →
      (∀ x ∈ path, RegSet.mem (g.get x).node.genReg item = false) →
      firstUsage.level g item (n + 1) (g.get a).nexts visited =
        [(readsSet (g.get last).node).find? (·.val == item)]
  | [], a, visited, n, _, hch, _, hv, _ => by
    rw [hch.1, level_single g item n last visited (hv last (by simp)), if_pos hlast]
  | p :: ps, a, visited, n + 1, hf, hch, hnd, hv, hno => by
    obtain ⟨hpn, hnd'⟩ := List.nodup_cons.mp hnd
    rw [hch.1, level_single g item _ p visited (hv p (by simp)), hno p (by simp), if_neg (by simp)]
    refine level_chain g item last hlast ps p (visited ++ [p]) n (Nat.le_of_succ_le_succ hf) hch.2 hnd'
      (fun x hx => ?_) fun x hx => hno x (List.mem_cons_of_mem _ hx)
    have h2 : x ≠ p := fun e => hpn (e ▸ hx)
    simpa [h2] using hv x (List.mem_cons_of_mem _ hx)

/-- **C05 (`firstUsage_at_distance`).** The forward search finds a use at any distance down a straight
    line: if the nodes after `start` form a line of single successors none of which reads `r` until
    `last`, which does, the search returns exactly the token of that read (`hlen`: the search has
    fuel `size + 2`). -/
theorem firstUsage_at_distance (g : Cfg) (start last : Nat) (path : List Nat) (r : Reg)
    (hlen : path.length ≤ g.nodes.size)
    (hch : Chain g (start :: (path ++ [last]))) (hnd : (start :: (path ++ [last])).Nodup)
    (hno : ∀ x ∈ path, RegSet.mem (g.get x).node.genReg r = false)
    (hlast : RegSet.mem (g.get last).node.genReg r = true) :
    firstUsage g start r = [(readsSet (g.get last).node).find? (·.val == r)] := by
  obtain ⟨hsn, hnd'⟩ := List.nodup_cons.mp hnd
  exact level_chain g r last hlast path start [start] _ (by omega) hch hnd'
    (fun x hx => by simpa using fun (e : x = start) => hsn (e ▸ hx)) hno

theorem firstUsage_next (g : Cfg) (start j : Nat) (r : Reg) (hn : (g.get start).nexts = [j])
    (hj : j ≠ start) (hgen : RegSet.mem (g.get j).node.genReg r = true) :
    firstUsage g start r = [(readsSet (g.get j).node).find? (·.val == r)] :=
  firstUsage_at_distance g start j [] r (Nat.zero_le _) ⟨hn, trivial⟩ (by simpa using hj.symm)
    (fun _ h => nomatch h) hgen

theorem mem_usageDiags {v : String} {g : Cfg} {i : Nat} {s : RegSet} {r : Reg} {w : W Reg}
    (hr : r ∈ RegSet.toList s) (hfu : firstUsage g i r = [some w]) : onReg v w ∈ usageDiags v g i s :=
  List.mem_flatMap.mpr ⟨r, hr, by simp [usageDiag, hfu]⟩

theorem useAfterCall_of_firstUsage (g : Cfg) (i : Nat) (hi : i < g.nodes.size) (f : Func) (nm : W String)
    (r : Reg) (w : W Reg) (hc : callsToFromCfg g (g.get i) = some (f, nm))
    (hfu : firstUsage g i r = [some w])
    (hout : r ∈ RegSet.toList ((RegSet.diff callerSavedSet (funcReturns g f)) &&& (g.get i).liveOut)) :
    ∃ x ∈ lintDeadValue g, x.code = "invalid-use-after-call" ∧ x.range = w.tok.range ∧ x.file = w.tok.file := by
  refine ⟨{ onReg "InvalidUseAfterCall" w with site := some i }, ?_,
    (code_of (by decide +kernel) : (onReg "InvalidUseAfterCall" w).code = _), rfl, rfl⟩
  refine List.mem_flatMap.mpr ⟨i, List.mem_range.mpr hi, ?_⟩
  rw [deadValueAt_call g i f nm hc]
  exact List.mem_map.mpr ⟨_, mem_usageDiags hout hfu, rfl⟩

/-- **use after call is reported at a distance**: the first instruction down the straight line after
    the call that reads the clobbered register gets the diagnostic, however far it is -/
theorem useAfterCall_reported_at_distance (g : Cfg) (i last : Nat) (path : List Nat) (hi : i < g.nodes.size)
    (f : Func) (nm : W String) (r : Reg) (w : W Reg)
    (hc : callsToFromCfg g (g.get i) = some (f, nm))
    (hlen : path.length ≤ g.nodes.size)
    (hch : Chain g (i :: (path ++ [last]))) (hnd : (i :: (path ++ [last])).Nodup)
    (hno : ∀ x ∈ path, RegSet.mem (g.get x).node.genReg r = false)
    (hgen : RegSet.mem (g.get last).node.genReg r = true)
    (hread : (readsSet (g.get last).node).find? (·.val == r) = some w)
    (hout : r ∈ RegSet.toList ((RegSet.diff callerSavedSet (funcReturns g f)) &&& (g.get i).liveOut)) :
    ∃ x ∈ lintDeadValue g, x.code = "invalid-use-after-call" ∧ x.range = w.tok.range ∧ x.file = w.tok.file :=
  useAfterCall_of_firstUsage g i hi f nm r w hc
    (hread ▸ firstUsage_at_distance g i last path r hlen hch hnd hno hgen) hout

/-- **use after call is reported** when the use immediately follows the call -/
theorem useAfterCall_reported (g : Cfg) (i j : Nat) (hi : i < g.nodes.size) (f : Func) (nm : W String)
    (r : Reg) (w : W Reg) (hc : callsToFromCfg g (g.get i) = some (f, nm))
    (hn : (g.get i).nexts = [j]) (hj : j ≠ i)
    (hgen : RegSet.mem (g.get j).node.genReg r = true)
    (hread : (readsSet (g.get j).node).find? (·.val == r) = some w)
    (hout : r ∈ RegSet.toList ((RegSet.diff callerSavedSet (funcReturns g f)) &&& (g.get i).liveOut)) :
    ∃ x ∈ lintDeadValue g, x.code = "invalid-use-after-call" ∧ x.range = w.tok.range ∧ x.file = w.tok.file :=
  useAfterCall_of_firstUsage g i hi f nm r w hc (hread ▸ firstUsage_next g i j r hn hj hgen) hout

theorem neverAssigned_of_firstUsage (g : Cfg) (i : Nat) (hi : i < g.nodes.size)
    (hpe : (g.get i).node.isProgramEntry = true) (r : Reg) (w : W Reg)
    (hfu : firstUsage g i r = [some w])
    (hlive : r ∈ RegSet.toList (RegSet.diff (g.get i).liveIn programArgsSet)) :
    ∃ x ∈ lintGarbageInput g, x.code = "invalid-use-before-assignment" ∧ x.range = w.tok.range ∧
      x.file = w.tok.file := by
  suffices h : onReg "InvalidUseBeforeAssignment" w ∈ lintGarbageInput g from reported h (by decide +kernel)
  refine List.mem_flatMap.mpr ⟨i, List.mem_range.mpr hi, ?_⟩
  simp only [garbageAt, hpe, if_true]
  exact mem_usageDiags hlive hfu

/-- **read of a never-assigned register is reported** on the operand, when the read is the first
    instruction of the program: the register is live into the program entry and is not one of the
    program's own arguments. -/
theorem neverAssigned_reported (g : Cfg) (i j : Nat) (hi : i < g.nodes.size)
    (hpe : (g.get i).node.isProgramEntry = true) (r : Reg) (w : W Reg)
    (hn : (g.get i).nexts = [j]) (hj : j ≠ i)
    (hgen : RegSet.mem (g.get j).node.genReg r = true)
    (hread : (readsSet (g.get j).node).find? (·.val == r) = some w)
    (hlive : r ∈ RegSet.toList (RegSet.diff (g.get i).liveIn programArgsSet)) :
    ∃ x ∈ lintGarbageInput g, x.code = "invalid-use-before-assignment" ∧ x.range = w.tok.range ∧
      x.file = w.tok.file :=
  neverAssigned_of_firstUsage g i hi hpe r w (hread ▸ firstUsage_next g i j r hn hj hgen) hlive

/-- **a never-assigned register is reported at a distance**: the first instruction down the straight
    line from the program entry that reads it gets the diagnostic -/
theorem neverAssigned_reported_at_distance (g : Cfg) (i last : Nat) (path : List Nat) (hi : i < g.nodes.size)
    (hpe : (g.get i).node.isProgramEntry = true) (r : Reg) (w : W Reg)
    (hlen : path.length ≤ g.nodes.size)
    (hch : Chain g (i :: (path ++ [last]))) (hnd : (i :: (path ++ [last])).Nodup)
    (hno : ∀ x ∈ path, RegSet.mem (g.get x).node.genReg r = false)
    (hgen : RegSet.mem (g.get last).node.genReg r = true)
    (hread : (readsSet (g.get last).node).find? (·.val == r) = some w)
    (hlive : r ∈ RegSet.toList (RegSet.diff (g.get i).liveIn programArgsSet)) :
    ∃ x ∈ lintGarbageInput g, x.code = "invalid-use-before-assignment" ∧ x.range = w.tok.range ∧
      x.file = w.tok.file :=
  neverAssigned_of_firstUsage g i hi hpe r w
    (hread ▸ firstUsage_at_distance g i last path r hlen hch hnd hno hgen) hlive

theorem firstStore_go_acc {g : Cfg} {item : Reg} {fuel : Nat} {queue visited : List Nat} {acc : List (W Reg)}
    {x : W Reg} (hx : x ∈ acc) : x ∈ firstStore.go g item fuel queue visited acc := by
  fun_induction firstStore.go g item fuel queue visited acc
  case case1 | case2 => exact hx
  case case4 ih => exact ih (List.mem_append_left _ hx)
  case case3 ih | case5 ih | case6 ih => exact ih hx

theorem mem_firstStore_prev (g : Cfg) (s p : Nat) (rest : List Nat) (rd : W Reg)
    (hp : (g.get s).prevs = p :: rest) (hps : p ≠ s) (hw : (g.get p).node.writesTo = some rd) :
    rd ∈ firstStore g s rd.val := by
  rw [firstStore, hp, firstStore.go]
  simp only [List.contains_cons, List.contains_nil, Bool.or_false, beq_iff_eq, hps, if_false, hw,
    beq_self_eq_true, if_true]
  exact firstStore_go_acc (by simp)

/-- **overwritten callee-saved register is reported** on the instruction that wrote it, when that
    instruction directly precedes the function's exit: for every function (visited through one of
    its labels) and every callee-saved register - a saved register, sp or ra - that does not hold
    its entry value at the exit. -/
theorem overwriteCalleeSaved_reported (g : Cfg) (lf : String × Nat) (hlf : lf ∈ g.labelFunc) (f : Func)
    (hf : g.funcOfEntry lf.2 = some f) (r : Reg) (hr : r ∈ RegSet.toList calleeSavedSet)
    (hno : isOriginal (g.get f.exit).regIn r = false)
    (p : Nat) (rest : List Nat) (hp : (g.get f.exit).prevs = p :: rest) (hpe : p ≠ f.exit)
    (rd : W Reg) (hw : (g.get p).node.writesTo = some rd) (hrd : rd.val = r) :
    ∃ x ∈ lintCalleeSaved g, x.code = "overwrite-callee-saved-register" ∧ x.range = rd.tok.range ∧
      x.file = rd.tok.file := by
  suffices h : onReg "OverwriteCalleeSavedRegister" rd ∈ lintCalleeSaved g from reported h (by decide +kernel)
  refine List.mem_flatMap.mpr ⟨lf, by simpa using hlf, ?_⟩
  simp only [calleeSavedAt, hf, List.mem_flatMap]
  refine ⟨r, hr, ?_⟩
  simp only [hno, Bool.false_eq_true, if_false]
  exact List.mem_map.mpr ⟨rd, hrd ▸ mem_firstStore_prev g f.exit p rest rd hp hpe hw, rfl⟩

end Rva
