/-
  C05 / C04 — trigger and silence conditions of the lint passes that read analysis facts:
  `X_reported` — whenever the stated condition holds at a node of the finished graph, a
  diagnostic of that kind is produced, located on the offending operand or instruction;
  `X_silent` — the pass reports nothing exactly when no node meets the condition (so, with
  `runLints_nil_iff`, "zero diagnostics" is characterised by conditions on the facts).
  Covered: dead assignment, lost callee-saved value, read of an unassigned saved register,
  node in many functions, unreachable code, entering a function by a jump / as first
  instruction, the stack-position stops.
-/
import Rva.Proofs.C05
import Rva.Proofs.FirstLabel
namespace Rva

def DeadAssign (g : Cfg) (i : Nat) (d : W Reg) : Prop :=
  callsToFromCfg g (g.get i) = none ∧ (g.get i).node.writesTo = some d ∧
  RegSet.mem (g.get i).liveOut d.val = false ∧ (g.get i).node.canSkipSaveChecks = false ∧ d.val ≠ 0

theorem deadValueAt_call (g : Cfg) (i : Nat) (f : Func) (nm : W String)
    (hc : callsToFromCfg g (g.get i) = some (f, nm)) :
    deadValueAt g i = (usageDiags "InvalidUseAfterCall" g i
      ((RegSet.diff callerSavedSet (funcReturns g f)) &&& (g.get i).liveOut)).map
        fun d => { d with site := some i } := by
  simp only [deadValueAt, hc]

theorem mem_deadValueAt_nocall (g : Cfg) (i : Nat) (x : Diag) (hc : callsToFromCfg g (g.get i) = none) :
    x ∈ deadValueAt g i ↔ ∃ d, DeadAssign g i d ∧ x = onReg "DeadAssignment" d := by
  simp only [deadValueAt, DeadAssign, hc]
  cases (g.get i).node.writesTo <;> simp [and_assoc, eq_comm (a := x)]

theorem deadAssignment_reported (g : Cfg) (i : Nat) (hi : i < g.nodes.size) (d : W Reg)
    (h : DeadAssign g i d) :
    ∃ x ∈ lintDeadValue g, x.code = "dead-assignment" ∧ x.range = d.tok.range ∧ x.file = d.tok.file :=
  reported (List.mem_flatMap.mpr ⟨i, List.mem_range.mpr hi, (mem_deadValueAt_nocall g i _ h.1).mpr ⟨d, h, rfl⟩⟩)
    (by decide +kernel)

theorem deadValue_silent (g : Cfg) :
    lintDeadValue g = [] ↔ ∀ i, i < g.nodes.size →
      (∀ d, ¬ DeadAssign g i d) ∧
      (∀ f nm, callsToFromCfg g (g.get i) = some (f, nm) →
        usageDiags "InvalidUseAfterCall" g i
          ((RegSet.diff callerSavedSet (funcReturns g f)) &&& (g.get i).liveOut) = []) := by
  simp only [lintDeadValue, List.flatMap_eq_nil_iff, List.mem_range]
  refine forall₂_congr fun i _ => ?_
  cases hc : callsToFromCfg g (g.get i) with
  | some p =>
    obtain ⟨f, nm⟩ := p
    simp [deadValueAt_call g i f nm hc, DeadAssign, hc]
  | none =>
    simp only [List.eq_nil_iff_forall_not_mem, mem_deadValueAt_nocall g i _ hc, reduceCtorEq, false_imp_iff,
      implies_true, and_true]
    exact ⟨fun h d hd => h _ ⟨d, hd, rfl⟩, fun h _ ⟨d, hd, _⟩ => h d hd⟩

def LostValue (cn : CNode) (rd : W Reg) : Prop :=
  cn.node.writesTo = some rd ∧ RegSet.mem savedSet rd.val = true ∧ cn.funcs ≠ [] ∧
  isOriginal cn.regIn rd.val = true ∧
  cn.memOut.any (fun p => p.2 == .ors rd.val 0#32) = false ∧
  cn.regOut.any (fun p => p.2 == .ors rd.val 0#32) = false

theorem mem_lintLostCalleeSaved {g : Cfg} {d : Diag} :
    d ∈ lintLostCalleeSaved g ↔
      ∃ cn ∈ g.nodes.toList, ∃ rd, LostValue cn rd ∧ d = onReg "LostRegisterValue" rd := by
  unfold lintLostCalleeSaved LostValue
  rw [List.mem_filterMap]
  refine exists_congr fun cn => and_congr_right fun _ => ?_
  cases cn.node.writesTo <;> simp [-List.any_eq_false, -List.any_eq_true, and_assoc, eq_comm (a := d)]

theorem lostRegister_reported (g : Cfg) (i : Nat) (hi : i < g.nodes.size) (rd : W Reg)
    (h : LostValue (g.get i) rd) :
    ∃ x ∈ lintLostCalleeSaved g, x.code = "lost-register-value" ∧ x.range = rd.tok.range ∧
      x.file = rd.tok.file :=
  reported (mem_lintLostCalleeSaved.mpr ⟨_, g.get_mem_toList i hi, rd, h, rfl⟩) (by decide +kernel)

theorem lostRegister_silent (g : Cfg) :
    lintLostCalleeSaved g = [] ↔ ∀ cn ∈ g.nodes.toList, ∀ rd, ¬ LostValue cn rd :=
  nil_iff_of_mem_iff fun _ => mem_lintLostCalleeSaved

theorem mem_lintOverlapping {g : Cfg} {d : Diag} :
    d ∈ lintOverlapping g ↔ ∃ i ∈ List.range g.nodes.size, ∃ l,
      ((g.get i).funcs.length > 1 ∧ (g.get i).funcs.contains i = true ∧ firstLabel (g.get i).labels = some l) ∧
      d = lintDiag "NodeInManyFunctions" l.tok.range l.tok.file l.tok.text := by
  unfold lintOverlapping
  rw [List.mem_filterMap]
  refine exists_congr fun i => and_congr_right fun _ => ?_
  cases h : firstLabel (g.get i).labels <;> simp [h, and_assoc, eq_comm (a := d)]

theorem overlapping_reported (g : Cfg) (i : Nat) (hi : i < g.nodes.size)
    (hn : (g.get i).funcs.length > 1) (he : (g.get i).funcs.contains i = true)
    (hl : (g.get i).labels ≠ []) :
    ∃ l ∈ (g.get i).labels, (∀ x ∈ (g.get i).labels, labelBefore x l = false) ∧
      ∃ x ∈ lintOverlapping g, x.code = "node-in-many-functions" ∧ x.range = l.tok.range ∧ x.file = l.tok.file :=
  let ⟨l, hf, hmem, hmin⟩ := firstLabel_spec _ hl
  ⟨l, hmem, hmin,
    reported (mem_lintOverlapping.mpr ⟨i, List.mem_range.mpr hi, l, ⟨hn, he, hf⟩, rfl⟩) (by decide +kernel)⟩

/-- **C11, last clause, the half that holds (`overlapping_report_sound`).** Sharing is never reported
    where none exists: every 'Node in many functions' item belongs to a function entry with at least
    two owning functions. (The converse is `overlapping_reported` for entries; for a tail shared through
    plain jumps it is false of the code: known finding F-16.) -/
theorem overlapping_report_sound (g : Cfg) (x : Diag) (hx : x ∈ lintOverlapping g) :
    ∃ i, i < g.nodes.size ∧ (g.get i).funcs.length > 1 ∧ (g.get i).funcs.contains i = true :=
  let ⟨i, hi, _, ⟨hn, he, _⟩, _⟩ := mem_lintOverlapping.mp hx
  ⟨i, List.mem_range.mp hi, hn, he⟩

theorem mem_entryPredDiags (g : Cfg) (cn : CNode) (p : Nat) (x : Diag) :
    x ∈ entryPredDiags g cn p ↔ cn.funcs ≠ [] ∧
      (x = onNode "FirstInstructionIsFunction" cn.node ∧ (g.get p).node.isProgramEntry = true ∨
       x = onNode "InvalidJumpToFunction" cn.node ∧ (g.get p).node.isProgramEntry = false ∧
        (g.get p).node.isUnconditionalJump = true ∧ ∃ f ∈ cn.funcs, f ∉ (g.get p).funcs) := by
  unfold entryPredDiags
  by_cases hf : cn.funcs = []
  · simp [hf]
  · have := List.exists_mem_of_ne_nil _ hf
    cases h1 : (g.get p).node.isProgramEntry <;> simp [hf, h1, this, eq_comm (a := x), and_comm]

theorem mem_controlFlowAt (g : Cfg) (cn : CNode) (x : Diag) :
    x ∈ controlFlowAt g cn ↔
      cn.node.isFunctionEntry = true ∧ (∃ p ∈ cn.prevs, x ∈ entryPredDiags g cn p) ∨
      x = unreachableDiag cn ∧ cn.node.isFunctionEntry = false ∧ cn.node.isProgramEntry = false ∧
        cn.prevs = [] := by
  unfold controlFlowAt
  cases cn.node.isFunctionEntry <;> simp [List.isEmpty_iff, and_comm]

theorem mem_lintControlFlow_of (g : Cfg) (i : Nat) (hi : i < g.nodes.size) (x : Diag)
    (h : x ∈ controlFlowAt g (g.get i)) : x ∈ lintControlFlow g :=
  List.mem_flatMap.mpr ⟨_, g.get_mem_toList i hi, h⟩

theorem unreachable_reported (g : Cfg) (i : Nat) (hi : i < g.nodes.size)
    (hfe : (g.get i).node.isFunctionEntry = false) (hpe : (g.get i).node.isProgramEntry = false)
    (hp : (g.get i).prevs = []) :
    ∃ x ∈ lintControlFlow g, x.code = "unreachable-code" ∧ x.range = (g.get i).node.tok.range ∧
      x.file = (g.get i).node.tok.file :=
  ⟨_, mem_lintControlFlow_of g i hi _ ((mem_controlFlowAt ..).mpr (.inr ⟨rfl, hfe, hpe, hp⟩)), rfl, rfl, rfl⟩

theorem jumpToFunction_reported (g : Cfg) (i p : Nat) (hi : i < g.nodes.size)
    (hfe : (g.get i).node.isFunctionEntry = true) (hf : (g.get i).funcs ≠ [])
    (hp : p ∈ (g.get i).prevs) (hnp : (g.get p).node.isProgramEntry = false)
    (hj : (g.get p).node.isUnconditionalJump = true)
    (hout : ∃ f ∈ (g.get i).funcs, f ∉ (g.get p).funcs) :
    ∃ x ∈ lintControlFlow g, x.code = "invalid-jump-to-function" ∧ x.range = (g.get i).node.tok.range ∧
      x.file = (g.get i).node.tok.file :=
  reported (mem_lintControlFlow_of g i hi _ ((mem_controlFlowAt ..).mpr (.inl ⟨hfe, p, hp,
    (mem_entryPredDiags ..).mpr ⟨hf, .inr ⟨rfl, hnp, hj, hout⟩⟩⟩))) (by decide +kernel)

theorem functionFirst_reported (g : Cfg) (i p : Nat) (hi : i < g.nodes.size)
    (hfe : (g.get i).node.isFunctionEntry = true) (hf : (g.get i).funcs ≠ [])
    (hp : p ∈ (g.get i).prevs) (hpe : (g.get p).node.isProgramEntry = true) :
    ∃ x ∈ lintControlFlow g, x.code = "first-instruction-is-function" ∧
      x.range = (g.get i).node.tok.range ∧ x.file = (g.get i).node.tok.file :=
  reported (mem_lintControlFlow_of g i hi _ ((mem_controlFlowAt ..).mpr (.inl ⟨hfe, p, hp,
    (mem_entryPredDiags ..).mpr ⟨hf, .inl ⟨rfl, hpe⟩⟩⟩))) (by decide +kernel)

theorem entryPredDiags_eq_nil_iff (g : Cfg) (cn : CNode) (p : Nat) :
    entryPredDiags g cn p = [] ↔ cn.funcs = [] ∨ ((g.get p).node.isProgramEntry = false ∧
      ((g.get p).node.isUnconditionalJump = false ∨ ∀ f ∈ cn.funcs, f ∈ (g.get p).funcs)) := by
  unfold entryPredDiags
  by_cases hf : cn.funcs = []
  · simp [hf]
  · cases h1 : (g.get p).node.isProgramEntry <;> simp [hf, h1, Decidable.or_iff_not_imp_left]

theorem controlFlow_silent (g : Cfg) :
    lintControlFlow g = [] ↔ ∀ cn ∈ g.nodes.toList,
      (cn.node.isFunctionEntry = true → ∀ p ∈ cn.prevs, cn.funcs = [] ∨
        ((g.get p).node.isProgramEntry = false ∧
          ((g.get p).node.isUnconditionalJump = false ∨ ∀ f ∈ cn.funcs, f ∈ (g.get p).funcs))) ∧
      (cn.node.isFunctionEntry = false → cn.node.isProgramEntry = false → cn.prevs ≠ []) := by
  simp only [lintControlFlow, List.flatMap_eq_nil_iff]
  refine forall₂_congr fun cn _ => ?_
  unfold controlFlowAt
  cases cn.node.isFunctionEntry <;> simp [List.flatMap_eq_nil_iff, entryPredDiags_eq_nil_iff, List.isEmpty_iff]

def GarbageRead (cn : CNode) (rd : W Reg) : Prop :=
  rd ∈ readsSet cn.node ∧ RegSet.mem savedSet rd.val = true ∧ cn.node.usesMemoryLocation = none ∧
  isOriginal cn.regIn rd.val = true

theorem mem_lintCalleeSavedGarbageRead {g : Cfg} {d : Diag} :
    d ∈ lintCalleeSavedGarbageRead g ↔
      ∃ cn ∈ g.nodes.toList, ∃ rd, GarbageRead cn rd ∧ d = onReg "InvalidUseBeforeAssignment" rd := by
  simp [lintCalleeSavedGarbageRead, garbageReadAt, GarbageRead, and_assoc, eq_comm (a := d)]

theorem garbageRead_reported (g : Cfg) (i : Nat) (hi : i < g.nodes.size) (rd : W Reg)
    (h : GarbageRead (g.get i) rd) :
    ∃ x ∈ lintCalleeSavedGarbageRead g, x.code = "invalid-use-before-assignment" ∧
      x.range = rd.tok.range ∧ x.file = rd.tok.file :=
  reported (mem_lintCalleeSavedGarbageRead.mpr ⟨_, g.get_mem_toList i hi, rd, h, rfl⟩) (by decide +kernel)

theorem garbageRead_silent (g : Cfg) :
    lintCalleeSavedGarbageRead g = [] ↔ ∀ cn ∈ g.nodes.toList, ∀ rd, ¬ GarbageRead cn rd :=
  nil_iff_of_mem_iff fun _ => mem_lintCalleeSavedGarbageRead

def StackOk (cn : CNode) : Prop :=
  ∃ off, AMap.get cn.regOut 2 = some (.ors 2 off) ∧ (0#32).slt off = false

def stackUse (cn : CNode) (off : Word) : List Diag :=
  match cn.node.usesMemoryLocation with
  | some (r2, off2) =>
    if r2 == 2 && !((off2 + off).slt 0#32) then [onNode "InvalidStackOffsetUsage" cn.node] else []
  | none => []

theorem stack_go_ok (cn : CNode) (rest : List CNode) (acc : List Diag) (off : Word)
    (h1 : AMap.get cn.regOut 2 = some (.ors 2 off)) (h2 : (0#32).slt off = false) :
    lintStack.go (cn :: rest) acc = lintStack.go rest (acc ++ stackUse cn off) := by
  rw [lintStack.go]
  simp only [h1, h2, stackUse]
  rcases cn.node.usesMemoryLocation with _ | ⟨r2, off2⟩
  · simp
  · simp only [bne_self_eq_false, Bool.false_eq_true, if_false]
    split <;> simp

theorem stack_go_stop (cn : CNode) (rest : List CNode) (acc : List Diag) (hbad : ¬ StackOk cn) :
    ∃ v, lintStack.go (cn :: rest) acc = acc ++ [onNode v cn.node] ∧
      (v = "UnknownStack" ∨ v = "InvalidStackPointer" ∨ v = "InvalidStackPosition") := by
  rw [lintStack.go]
  split
  · exact ⟨_, rfl, .inl rfl⟩
  · split
    · exact ⟨_, rfl, .inr (.inl rfl)⟩
    · split
      · exact ⟨_, rfl, .inr (.inr rfl)⟩
      · rename_i r off h2 hr hpos
        obtain rfl : r = 2 := by simpa using hr
        exact absurd ⟨off, h2, by simpa using hpos⟩ hbad
  · exact ⟨_, rfl, .inr (.inl rfl)⟩

theorem stack_go_acc {l : List CNode} {acc : List Diag} {d : Diag} (h : d ∈ acc) : d ∈ lintStack.go l acc := by
  induction l generalizing acc with
  | nil => rw [lintStack.go]; exact h
  | cons cn rest ih =>
    by_cases hok : StackOk cn
    · obtain ⟨off, h1, h2⟩ := hok
      rw [stack_go_ok cn rest acc off h1 h2]
      exact ih (List.mem_append_left _ h)
    · obtain ⟨x, e, _⟩ := stack_go_stop cn rest acc hok
      rw [e]
      exact List.mem_append_left _ h

theorem stack_go_prefix (pre l : List CNode) (hpre : ∀ c ∈ pre, StackOk c) (acc : List Diag) :
    ∃ acc', lintStack.go (pre ++ l) acc = lintStack.go l acc' := by
  induction pre generalizing acc with
  | nil => exact ⟨acc, rfl⟩
  | cons c cs ih =>
    obtain ⟨off, h1, h2⟩ := hpre c List.mem_cons_self
    rw [List.cons_append, stack_go_ok c _ acc off h1 h2]
    exact ih (fun x hx => hpre x (List.mem_cons_of_mem _ hx)) _

/-- **the first bad stack position is reported**: all nodes before `cn` keep sp at a known
    position at or below the entry value, `cn` does not ⇒ a stack diagnostic on `cn` -/
theorem stack_first_stop (g : Cfg) (pre post : List CNode) (cn : CNode)
    (hsplit : g.nodes.toList = pre ++ cn :: post) (hpre : ∀ c ∈ pre, StackOk c) (hbad : ¬ StackOk cn) :
    ∃ x ∈ lintStack g, x.range = cn.node.tok.range ∧ x.file = cn.node.tok.file ∧
      (x.code = "unknown-stack" ∨ x.code = "invalid-stack-pointer" ∨ x.code = "invalid-stack-position") := by
  obtain ⟨acc, e⟩ := stack_go_prefix pre (cn :: post) hpre []
  obtain ⟨v, ev, hv⟩ := stack_go_stop cn post acc hbad
  refine ⟨onNode v cn.node, by simp [lintStack, hsplit, e, ev], rfl, rfl, ?_⟩
  rcases hv with rfl | rfl | rfl
  · exact .inl (code_of (by decide +kernel))
  · exact .inr (.inl (code_of (by decide +kernel)))
  · exact .inr (.inr (code_of (by decide +kernel)))

/-- **an access at or above the entry stack pointer is reported**, as long as the stack
    pointer is known up to and including that node -/
theorem stackOffset_reported (g : Cfg) (pre post : List CNode) (cn : CNode) (off off2 : Word)
    (hsplit : g.nodes.toList = pre ++ cn :: post) (hpre : ∀ c ∈ pre, StackOk c)
    (h1 : AMap.get cn.regOut 2 = some (.ors 2 off)) (h2 : (0#32).slt off = false)
    (hu : cn.node.usesMemoryLocation = some (2, off2)) (hover : (off2 + off).slt 0#32 = false) :
    ∃ x ∈ lintStack g, x.code = "invalid-stack-offset-usage" ∧ x.range = cn.node.tok.range ∧
      x.file = cn.node.tok.file := by
  obtain ⟨acc, e⟩ := stack_go_prefix pre (cn :: post) hpre []
  suffices h : onNode "InvalidStackOffsetUsage" cn.node ∈ lintStack g from reported h (by decide +kernel)
  rw [lintStack, hsplit, e, stack_go_ok cn post acc off h1 h2]
  exact stack_go_acc (by simp [stackUse, hu, hover])

end Rva
