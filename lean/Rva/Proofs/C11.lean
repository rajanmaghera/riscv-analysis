/-
  C11 — function membership.

  `markLoop_own` / `mark_reachable_owner`: after `mark_reachable` has walked a function, every
  instruction it attributed to the function carries that function among its owners - also across
  the in-walk mutation that turns a second return into a jump to the first one. (`Cfg.modify`
  leaves an index outside the node array alone, so the invariant also says that the stack and all
  edges stay inside it.)
-/
import Rva.Proofs.Markup
namespace Rva

def OwnInv (entry : Nat) (st : MarkSt) : Prop :=
  (∀ i ∈ st.insts, entry ∈ (st.g.get i).funcs) ∧ (∀ i ∈ st.stack, i < st.g.nodes.size) ∧
  (∀ a, ∀ b ∈ (st.g.get a).nexts, b < st.g.nodes.size)

theorem markLoop_own (desc : Bool) (entry : Nat) (fuel : Nat) (st : MarkSt) (hr : RetSeen st)
    (h : OwnInv entry st) : OwnInv entry (markLoop desc entry fuel st) := by
  refine markLoop_walk ?_ ?_ (fun _ _ _ _ _ h => h) ?_ fuel st hr h
  · intro st i rest hstk _ ⟨h1, h2, h3⟩
    exact ⟨h1, fun j hj => h2 j (hstk ▸ List.mem_cons_of_mem _ hj), h3⟩
  · intro st i rest hstk _ ⟨h1, h2, h3⟩
    have hi : i < st.g.nodes.size := h2 i (hstk ▸ List.mem_cons_self)
    refine ⟨fun j hj => ?_, fun j hj => ?_, fun a b hb => ?_⟩
    · rw [markOwner_funcs]
      rcases List.mem_cons.mp hj with rfl | hj
      · exact Or.inl ⟨rfl, hi⟩
      · exact Or.inr (h1 j hj)
    · rw [markOwner_size]
      rcases (mem_pushSucc _ _ _ _).mp hj with hj | hj
      · exact h3 i j hj
      · exact h2 j (hstk ▸ List.mem_cons_of_mem _ hj)
    · rw [markOwner_size]; rw [(markOwner_edges _ _ _ a).2.1] at hb; exact h3 a b hb
  · intro st i r _ _ _ _ hr _ ⟨h1, h2, h3⟩
    refine ⟨fun j hj => by rw [rewireReturn_get]; exact h1 j hj,
      fun j hj => by rw [rewireReturn_size]; exact h2 j hj, fun a b hb => ?_⟩
    rw [rewireReturn_size]
    rcases rewireReturn_nexts hb with ⟨_, rfl⟩ | hb
    · exact hr
    · exact h3 a b hb

/-- **C11.** Starting the walk at a function entry of a graph whose prev/next relations are
    inverse: every instruction recorded for the function has the function among its owners. -/
theorem mark_reachable_owner (desc : Bool) (g : Cfg) (e fuel : Nat) (he : e < g.nodes.size)
    (hs : Symm g) :
    let st := markLoop desc e fuel { g := g, stack := [e] }
    ∀ i ∈ st.insts, e ∈ (st.g.get i).funcs :=
  (markLoop_own desc e fuel { g := g, stack := [e] } (RetSeen.init g [e])
    ⟨fun _ h => (nomatch h), fun i hi => by rw [List.mem_singleton.mp hi]; exact he,
      fun a b hb => (hs.nexts_lt hb).2⟩).1

end Rva
