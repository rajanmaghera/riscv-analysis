/-
  C11 / C06 — the function walk of the markup pass always finishes within its fuel.

  `markLoop_terminates`: on a graph whose nodes have at most two successors, all inside the node
  array (what the direction pass produces), the walk started at any node ends with an empty work
  list before `markFuel` steps are used. This discharges the hypothesis `hdone` of
  `body_is_reachable_set` / `markStep_body` / `markStep_error_no_return` for every such graph,
  and is the termination argument of the pass (C06): every step either drops an already visited
  node from the work list or visits a new node and pushes at most two.
-/
import Rva.Proofs.C11b
namespace Rva

structure OutSmall (g : Cfg) : Prop where
  deg : ∀ a, (g.get a).nexts.length ≤ 2
  lt : ∀ a b, b ∈ (g.get a).nexts → b < g.nodes.size

theorem Pruned.outSmall {g g' : Cfg} (h : Pruned g g') (hs : OutSmall g) : OutSmall g' :=
  ⟨fun a => Nat.le_trans (h.nexts a).length_le (hs.deg a),
   fun a b hb => by rw [h.size]; exact hs.lt a b ((h.nexts a).subset hb)⟩

theorem rewire_outSmall (g : Cfg) (i r : Nat) (hr : r < g.nodes.size) (h : OutSmall g) :
    OutSmall (rewireReturn g i r) := by
  refine ⟨fun a => ?_, fun a b hb => ?_⟩
  · rw [rewireReturn_get]
    simp only []
    split
    · simp
    · exact h.deg a
  · rw [rewireReturn_size]
    rcases rewireReturn_nexts hb with ⟨_, rfl⟩ | hb
    · exact hr
    · exact h.lt a b hb

/-- the measure is `st.stack.length + 3 * (n - st.visited.length)`: a skip pops one entry; a visit
    pops one, pushes at most two and uses up one unvisited node -/
structure TermInv (n : Nat) (st : MarkSt) : Prop where
  size : st.g.nodes.size = n
  small : OutSmall st.g
  seenLt : ∀ x, x ∈ st.visited ∨ x ∈ st.stack → x < n
  visNodup : st.visited.Nodup

theorem TermInv.push {n : Nat} {st : MarkSt} (inv : TermInv n st) (desc : Bool) (entry : Nat) {i : Nat}
    {rest : List Nat} (hstk : st.stack = i :: rest) (hv : i ∉ st.visited) :
    TermInv n (markPush desc entry st i rest) ∧
      (markPush desc entry st i rest).stack.length + 3 * (n - (markPush desc entry st i rest).visited.length) + 1 ≤
        st.stack.length + 3 * (n - st.visited.length) := by
  have hnd : (i :: st.visited).Nodup := List.nodup_cons.mpr ⟨hv, inv.visNodup⟩
  have hlt : ∀ x, x ∈ i :: st.visited ∨ x ∈ pushSucc desc (st.g.get i).nexts rest → x < n := fun x hx =>
    ((seen_push desc _ hstk).mp hx).elim (inv.seenLt x) fun h => inv.size ▸ inv.small.lt i x h
  -- pigeonhole: the visited nodes are distinct indices below `n`
  have hvl : (i :: st.visited).length ≤ n := by
    simpa using hnd.length_le_of_subset (l₂ := List.range n) fun x hx => List.mem_range.mpr (hlt x (.inl hx))
  refine ⟨⟨(markOwner_size ..).trans inv.size,
    ((markOwner_edges _ _ _).pruned (markOwner_size ..)).outSmall inv.small, hlt, hnd⟩, ?_⟩
  have := inv.small.deg i
  simp only [length_pushSucc, List.length_cons, hstk] at hvl ⊢
  omega

theorem TermInv.step {n : Nat} {desc : Bool} {entry : Nat} {st st' : MarkSt} (inv : TermInv n st)
    (hr : RetSeen st) (hs : MarkStep desc entry st st') :
    TermInv n st' ∧ st'.stack.length + 3 * (n - st'.visited.length) + 1 ≤
      st.stack.length + 3 * (n - st.visited.length) := by
  cases hs with
  | skip hstk hv =>
    refine ⟨⟨inv.size, inv.small, fun x hx => inv.seenLt x ((seen_skip hstk hv).mp hx), inv.visNodup⟩, ?_⟩
    simp only [hstk, List.length_cons]; omega
  | plain hstk hv => exact inv.push desc entry hstk hv
  | first hstk hv =>
    obtain ⟨p, hφ⟩ := inv.push desc entry hstk hv
    exact ⟨⟨p.size, p.small, p.seenLt, p.visNodup⟩, hφ⟩
  | later hstk hv _ hret =>
    obtain ⟨p, hφ⟩ := inv.push desc entry hstk hv
    exact ⟨⟨(rewireReturn_size ..).trans p.size,
      rewire_outSmall _ _ _ (by rw [p.size, ← inv.size]; exact (hr _ hret).2) p.small,
      p.seenLt, p.visNodup⟩, hφ⟩

theorem markLoop_terminates_aux (desc : Bool) (entry n : Nat) (fuel : Nat) :
    ∀ st : MarkSt, TermInv n st → RetSeen st → st.stack.length + 3 * (n - st.visited.length) ≤ fuel →
      (markLoop desc entry fuel st).stack = [] ∧ OutSmall (markLoop desc entry fuel st).g ∧
      (markLoop desc entry fuel st).g.nodes.size = n := by
  induction fuel with
  | zero =>
    exact fun st inv _ hφ => ⟨List.length_eq_zero_iff.mp (show st.stack.length = 0 by omega), inv.small, inv.size⟩
  | succ f ih =>
    intro st inv hr hφ
    rcases markLoop_succ desc entry f st with ⟨h, e⟩ | ⟨st', hs, e⟩ <;> rw [e]
    · exact ⟨h, inv.small, inv.size⟩
    · obtain ⟨inv', hφ'⟩ := inv.step hr hs
      exact ih st' inv' (hr.step hs) (by omega)

/-- **C11 / C06 (`markLoop_terminates`).** On a graph with at most two successors per node (all
    in range), the walk from any node `e` of the graph ends with an empty work list within
    `markFuel g` steps. -/
theorem markLoop_terminates (desc : Bool) (g : Cfg) (e : Nat) (he : e < g.nodes.size) (h : OutSmall g) :
    (markLoop desc e (markFuel g) { g := g, stack := [e] }).stack = [] ∧
    OutSmall (markLoop desc e (markFuel g) { g := g, stack := [e] }).g ∧
    (markLoop desc e (markFuel g) { g := g, stack := [e] }).g.nodes.size = g.nodes.size := by
  apply markLoop_terminates_aux desc e g.nodes.size (markFuel g) { g := g, stack := [e] }
  · exact ⟨rfl, h, fun x hx => by rw [List.mem_singleton.mp (hx.resolve_left List.not_mem_nil)]; exact he,
      List.nodup_nil⟩
  · exact RetSeen.init g [e]
  · have : 4 * (g.nodes.size + 1) ≤ 4 * (g.nodes.size + 1) * (g.nodes.size + 1) :=
      Nat.le_mul_of_pos_right _ (Nat.succ_pos _)
    simp only [markFuel, List.length_cons, List.length_nil]
    omega

end Rva
