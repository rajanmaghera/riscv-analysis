/-
  C14 — renaming within a convention class.

  The register sets of the *generated* table are invariant under every admissible renaming σ
  (`class_membership_equivariant`), so kill/gen sets, convention checks and lint triggers that
  are built from these sets commute with σ; σ fixes the registers of the ecall signature table
  (`admissible_fixes_args`). The pipeline-level statement (diags (rename p) = rename (diags p))
  is carried by the metamorphic check on the real code over sampled permutations and all
  transpositions.
-/
import Rva.Proofs.Tables
import Rva.Proofs.RegSet
namespace Rva

/-- a map on 0..31 that keeps every register in its convention class: fixes zero, ra, sp, gp, tp
    and the argument registers, moves temporaries among temporaries and saved registers among
    saved registers -/
def Admissible (σ : Nat → Nat) : Prop := ∀ r, r < 32 → σ r < 32 ∧ sameClass r (σ r) = true

/-- **C14.** Every register set the analyses and lints consult is invariant under every
    admissible renaming: `r ∈ S ↔ σ r ∈ S`. -/
theorem class_membership_equivariant (σ : Nat → Nat) (hσ : Admissible σ) :
    ∀ cs ∈ Gen.classSets, ∀ r, r < 32 →
      RegSet.mem (RegSet.ofList cs.2) r = RegSet.mem (RegSet.ofList cs.2) (σ r) := by
  intro cs hcs r hr
  have ⟨h1, h2⟩ := hσ r hr
  rw [RegSet.mem_ofList _ _ hr, RegSet.mem_ofList _ _ h1]
  exact classSets_sameClass cs hcs r (σ r) h2

/-- An admissible renaming fixes the argument registers, which are all the ecall signature
    table mentions (`ecall_table_args_only`). -/
theorem admissible_fixes_args (σ : Nat → Nat) (hσ : Admissible σ) (r : Nat) (hr : r ∈ Spec.arguments) :
    σ r = r := by
  -- an argument register is in neither class, so only `r == σ r` is left of `sameClass`
  have harg : ∀ a ∈ Spec.arguments,
      a < 32 ∧ Spec.temporaries.contains a = false ∧ Spec.saved.contains a = false := by decide +kernel
  obtain ⟨hlt, ht, hs⟩ := harg r hr
  have h := (hσ r hlt).2
  simp only [sameClass, ht, hs, Bool.false_and, Bool.or_false, beq_iff_eq] at h
  exact h.symm

end Rva
