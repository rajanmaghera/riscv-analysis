/-
  Lexer totality and coverage, both read off `lexNext_spec` (Proofs/C09). Every call of the
  iterator consumes at least one character and stays inside the text: the lexer terminates after
  at most one step per character, with no recursion (C06). Every character is a blank or belongs
  to the text consumed for a reported item, and when the iterator ends only blanks are left
  (C07: nothing is dropped silently after an unexpected character, a carriage return, a closing
  quote, or at end of file).
-/
import Rva.Proofs.C09
namespace Rva
open Spec Cursor

theorem adv_le_size (src : Array Char) (c : Cursor) (h : c.pos ≤ src.size) :
    (c.adv src).pos ≤ src.size := by
  unfold Cursor.adv
  split
  · rename_i hc; split <;> exact lt_size_of_cur hc
  · exact h

theorem lexNext_moves (src : Array Char) (c : Cursor) (r : LexItem × Cursor)
    (hr : lexNext src c = some r) : c.pos < r.2.pos ∧ r.2.pos ≤ src.size := by
  obtain ⟨hlt, hl⟩ := lexNext_some src c r hr
  -- the first non-blank is a character, so `consume_char` moves past it; `r.2` is there or later
  have h1 := (skipWs_advances src c).pos_le
  have h2 := hl.next.pos_le
  rw [adv_pos_of_cur (Array.getElem?_eq_getElem hlt)] at h2
  exact ⟨by omega, hl.next.pres (adv_le_size src) (adv_le_size src _ (Nat.le_of_lt hlt))⟩

theorem lexNext_progress (src : Array Char) (c : Cursor) (r : LexItem × Cursor)
    (hr : lexNext src c = some r) : c.pos < r.2.pos :=
  (lexNext_moves src c r hr).1

/-- The guard in `lexAll` never fires: the recursion always continues, so `lexAll` terminates
    having consumed the whole text (C06: the lexer neither loops nor recurses unboundedly; it
    makes one step per character at most). -/
theorem lexAll_guard (src : Array Char) (c : Cursor) (h : CurInv src c) (r : LexItem × Cursor)
    (hr : lexNext src c = some r) : c.pos < r.2.pos ∧ r.2.pos ≤ src.size :=
  lexNext_moves src c r hr

def wsAt (src : Array Char) (i : Nat) : Prop := ∃ ch, src[i]? = some ch ∧ isWs ch = true

theorem skipWs_skips (src : Array Char) (c : Cursor) :
    ∀ i, c.pos ≤ i → i < (skipWs src c).pos → wsAt src i := by
  fun_induction skipWs src c with
  | case1 c ch hc hw ih =>
    intro i h1 h2
    by_cases hi : i = c.pos
    · subst hi; exact ⟨ch, hc, hw⟩
    · apply ih i _ h2
      rw [adv_pos_of_cur hc]; omega
  | case2 c ch hc hw => intro i h1 h2; omega
  | case3 c hc => intro i h1 h2; omega

def LexItem.startRaw : LexItem → Nat
  | .tok t => t.range.start.raw
  | .strErr t _ _ => t.range.start.raw
  | .unexpected t => t.range.start.raw

theorem lexNext_start (src : Array Char) (c : Cursor) (r : LexItem × Cursor)
    (hr : lexNext src c = some r) : r.1.startRaw = (skipWs src c).pos := by
  cases (lexNext_some src c r hr).2 <;> rfl

theorem lexNext_none (src : Array Char) (c : Cursor) (hr : lexNext src c = none) :
    ∀ i, c.pos ≤ i → i < src.size → wsAt src i := by
  intro i h1 h2
  have hs := lexNext_spec src c
  rw [hr] at hs
  exact skipWs_skips src c i h1 (Nat.lt_of_lt_of_le h2 hs)

def lexAllC (src : Array Char) (c : Cursor) : List (LexItem × Cursor) :=
  match lexNext src c with
  | none => []
  | some (it, c') =>
    if h : c.pos < c'.pos ∧ c'.pos ≤ src.size then (it, c') :: lexAllC src c' else [(it, c')]
termination_by src.size - c.pos
decreasing_by omega

theorem lexAll_eq_map (src : Array Char) (c : Cursor) : lexAll src c = (lexAllC src c).map (·.1) := by
  fun_induction lexAllC src c with
  | case1 c hn => rw [lexAll]; simp [hn]
  | case2 c it c' hn hg ih => rw [lexAll]; simp [hn, hg, ih]
  | case3 c it c' hn hg => rw [lexAll]; simp [hn, hg]

theorem lexAllC_covers (src : Array Char) (c : Cursor) :
    ∀ i, c.pos ≤ i → i < src.size →
      wsAt src i ∨ ∃ p ∈ lexAllC src c, p.1.startRaw ≤ i ∧ i < p.2.pos := by
  fun_induction lexAllC src c with
  | case1 c hn => intro i h1 h2; exact Or.inl (lexNext_none src c hn i h1 h2)
  | case2 c it c' hn hg ih =>
    intro i h1 h2
    have hs : it.startRaw = (skipWs src c).pos := lexNext_start src c (it, c') hn
    by_cases hlt : i < (skipWs src c).pos
    · exact Or.inl (skipWs_skips src c i h1 hlt)
    · by_cases hin : i < c'.pos
      · exact Or.inr ⟨(it, c'), List.mem_cons_self, by show it.startRaw ≤ i; omega, hin⟩
      · rcases ih i (by omega) h2 with hw | ⟨p, hp, hp2⟩
        · exact Or.inl hw
        · exact Or.inr ⟨p, List.mem_cons_of_mem _ hp, hp2⟩
  | case3 c it c' hn hg =>
    exact absurd (lexNext_moves src c _ hn) hg

/-- **C07 (lexer).** Every character of the text is a blank (space, tab, comma, CR) or lies in
    the stretch of text consumed for a reported item (token, string error or unexpected
    character): nothing is dropped silently, whatever the input. -/
theorem lex_covers (src : Array Char) (c : Cursor) (h : CurInv src c) :
    ∀ i, c.pos ≤ i → i < src.size →
      wsAt src i ∨ ∃ p ∈ lexAllC src c, p.1.startRaw ≤ i ∧ i < p.2.pos :=
  lexAllC_covers src c

end Rva
