/-
  C02, second half — the computed liveness is the *least* solution.

  `PreSol g S`: the assignment `S` (live-in, live-out per node) is closed under the documented
  liveness rules of graph `g` (a pre-fixed point: every rule's right-hand side is contained in
  its left-hand side); the rules read the graph through its shape only (`PreSol.shape`), which
  the pass never changes (`liveNode_shape`). `liveNode_below`: one node update keeps the current
  facts below every such `S`; what every node update keeps, every sweep and the whole pass keep
  (`liveSweep_inv`, `liveLoop_inv`), for every graph, every visiting history, every number of
  sweeps. With `liveNode_quiet` (the result is itself a solution once nothing changes) the
  result is the least solution: no register is reported live without a rule forcing it.
-/
import Rva.Proofs.C02
namespace Rva

/-- a candidate solution: (live-in, live-out) for every node index -/
abbrev Assign := Nat → RegSet × RegSet

/-- `S` is closed under the liveness rules of `g` (all five node kinds of liveness.rs, the last two sharing a rule). -/
def PreSol (g : Cfg) (S : Assign) : Prop :=
  ∀ i,
    let cn := g.get i
    let n := cn.node
    (∀ s ∈ cn.nexts, Sub (S s).1 (S i).2) ∧
    match callsToFromCfg g cn with
    | some (func, _) =>
      Sub (S i).2 (S func.exit).1 ∧
      Sub (((S func.entry).2 &&& argumentSet) ||| (RegSet.diff (S i).2 n.killReg) ||| n.genReg) (S i).1
    | none =>
      if n.isEcall then
        Sub ((RegSet.diff (S i).2 callerSavedSet) ||| ecallAlwaysArgumentSet |||
          ((ecallSignature cn).getD (0#32, 0#32)).1) (S i).1
      else if n.isReturn then Sub n.genReg (S i).1
      else Sub ((RegSet.diff (S i).2 n.killReg) ||| n.genReg) (S i).1

def Below (g : Cfg) (S : Assign) : Prop :=
  ∀ i, Sub (g.get i).liveIn (S i).1 ∧ Sub (g.get i).liveOut (S i).2

/-- `g'` has what the liveness rules of `g` read besides the live sets (`regIn`: `ecallSignature`) -/
def SameShape (g g' : Cfg) : Prop :=
  g'.funcs = g.funcs ∧ g'.labelFunc = g.labelFunc ∧ g'.nodes.size = g.nodes.size ∧
  ∀ j, (g'.get j).node = (g.get j).node ∧ (g'.get j).nexts = (g.get j).nexts ∧
       (g'.get j).prevs = (g.get j).prevs ∧ (g'.get j).regIn = (g.get j).regIn

theorem SameShape.refl (g : Cfg) : SameShape g g := ⟨rfl, rfl, rfl, fun _ => ⟨rfl, rfl, rfl, rfl⟩⟩

theorem SameShape.trans {a b c : Cfg} (h1 : SameShape a b) (h2 : SameShape b c) : SameShape a c := by
  obtain ⟨f1, l1, s1, n1⟩ := h1
  obtain ⟨f2, l2, s2, n2⟩ := h2
  refine ⟨f2.trans f1, l2.trans l1, s2.trans s1, fun j => ?_⟩
  obtain ⟨a1, a2, a3, a4⟩ := n1 j
  obtain ⟨b1, b2, b3, b4⟩ := n2 j
  exact ⟨b1.trans a1, b2.trans a2, b3.trans a3, b4.trans a4⟩

theorem SameShape.setLive {g0 g : Cfg} (h : SameShape g0 g) (i : Nat) (li lo ud : CNode → RegSet) :
    SameShape g0 (g.modify i fun m => { m with liveIn := li m, liveOut := lo m, uDef := ud m }) := by
  refine h.trans ⟨rfl, rfl, Cfg.size_modify .., fun j => ?_⟩
  rw [Cfg.get_modify]
  split <;> exact ⟨rfl, rfl, rfl, rfl⟩

theorem Below.modify {g : Cfg} {S : Assign} (hb : Below g S) (i : Nat) (f : CNode → CNode)
    (h1 : Sub (f (g.get i)).liveIn (S i).1) (h2 : Sub (f (g.get i)).liveOut (S i).2) :
    Below (g.modify i f) S := by
  intro j
  rw [Cfg.get_modify]
  split
  · rename_i hc; rw [hc.1]; exact ⟨h1, h2⟩
  · exact hb j

theorem callsTo_shape (g g' : Cfg) (h : SameShape g g') (j : Nat) :
    callsToFromCfg g' (g'.get j) = callsToFromCfg g (g.get j) := by
  obtain ⟨hf, hl, _, hn⟩ := h
  unfold callsToFromCfg Cfg.funcOfLabel Cfg.funcOfEntry
  rw [(hn j).1, hf, hl]

theorem PreSol.shape {g g' : Cfg} {S : Assign} (hp : PreSol g S) (hs : SameShape g g') : PreSol g' S := by
  intro i
  have h := hp i
  obtain ⟨hnode, hnexts, _, hreg⟩ := hs.2.2.2 i
  have hsig : ecallSignature (g'.get i) = ecallSignature (g.get i) := by
    unfold ecallSignature knownEcall
    rw [hnode, hreg]
  simp only [callsTo_shape g g' hs i, hsig, hnode, hnexts]
  exact h

theorem liveNode_shape (g : Cfg) (vis : List Nat) (i : Nat) : SameShape g (liveNode g vis i).1 := by
  cases hc : callsToFromCfg g (g.get i) with
  | none =>
    obtain ⟨ud, e⟩ := liveNode_plain g vis i hc
    rw [e]
    exact ((SameShape.refl g).setLive i _ _ _).setLive i _ _ _
  | some p =>
    obtain ⟨ud, e⟩ := liveNode_call g vis i p.1 p.2 hc
    rw [e]
    exact (((SameShape.refl g).setLive i _ _ _).setLive p.1.exit _ _ _).setLive i _ _ _

theorem plainLiveIn_mono (cn : CNode) {cur cur' lo lo' : RegSet} (hc : Sub cur cur') (hl : Sub lo lo') :
    Sub (plainLiveIn cn cur lo) (plainLiveIn cn cur' lo') := by
  unfold plainLiveIn
  split
  · exact ((hl.diff _).or (Sub.refl _)).or (Sub.refl _)
  · split
    · exact hc.or (Sub.refl _)
    · exact (hl.diff _).or (Sub.refl _)

theorem PreSol.plain {g : Cfg} {S : Assign} (hp : PreSol g S) (i : Nat)
    (hc : callsToFromCfg g (g.get i) = none) : Sub (plainLiveIn (g.get i) (S i).1 (S i).2) (S i).1 := by
  have h := (hp i).2
  simp only [hc] at h
  revert h
  unfold plainLiveIn
  split
  · exact id
  · split
    · exact (Sub.refl _).or_le  -- a return keeps the live-in set it had
    · exact id

theorem Below.liveNode {g : Cfg} {S : Assign} (hb : Below g S) (hp : PreSol g S) (vis : List Nat) (i : Nat) :
    Below (liveNode g vis i).1 S := by
  have hlo : Sub (liveOutOf g i) (S i).2 := by
    apply Sub.unionOver
    intro x hx
    obtain ⟨s, hs, rfl⟩ := List.mem_map.mp hx
    exact (hb s).1.trans ((hp i).1 s hs)
  have hb1 := hb.modify i (fun m => { m with liveOut := liveOutOf g i }) (hb i).1 hlo
  cases hc : callsToFromCfg g (g.get i) with
  | none =>
    obtain ⟨ud, e⟩ := liveNode_plain g vis i hc
    rw [e]
    refine hb1.modify i _ ?_ (hb1 i).2
    exact (plainLiveIn_mono _ (hb i).1 hlo).trans (hp.plain i hc)
  | some p =>
    obtain ⟨f, nm⟩ := p
    obtain ⟨ud, e⟩ := liveNode_call g vis i f nm hc
    have hr := (hp i).2
    simp only [hc] at hr
    rw [e]
    have hb2 := hb1.modify f.exit (fun m => { m with liveIn := liveOutOf g i ||| (g.get f.exit).liveIn })
      ((hlo.trans hr.1).or_le (hb f.exit).1) (hb1 f.exit).2
    refine hb2.modify i _ ?_ (hb2 i).2
    exact ((((hb2 f.entry).2.and _).or (hlo.diff _)).or (Sub.refl _)).trans hr.2

theorem liveNode_below (g0 g : Cfg) (S : Assign) (vis : List Nat) (i : Nat)
    (hp : PreSol g0 S) (hs : SameShape g0 g) (hb : Below g S) :
    Below (liveNode g vis i).1 S ∧ SameShape g0 (liveNode g vis i).1 :=
  ⟨hb.liveNode (hp.shape hs) vis i, hs.trans (liveNode_shape g vis i)⟩

theorem liveSweep_inv (P : Cfg → Prop) (hn : ∀ g vis i, P g → P (liveNode g vis i).1)
    (g : Cfg) (vis : List Nat) (h : P g) : P (liveSweep g vis).1 :=
  List.foldlRecOn (motive := fun acc : Cfg × List Nat × Bool => P acc.1) _ _ h
    fun acc hacc i _ => hn acc.1 acc.2.1 i hacc

theorem liveLoop_inv (P : Cfg → Prop) (hn : ∀ g vis i, P g → P (liveNode g vis i).1) (fuel : Nat) :
    ∀ (g : Cfg) (vis : List Nat), P g → P (liveLoop fuel g vis).1 := by
  induction fuel with
  | zero => exact fun _ _ h => h
  | succ n ih =>
    intro g vis h
    unfold liveLoop
    have h := liveSweep_inv P hn g vis h
    generalize liveSweep g vis = r at h
    obtain ⟨g', vis', ch⟩ := r
    simp only []
    split
    · exact ih g' vis' h
    · exact h

theorem liveness_shape (g : Cfg) : SameShape g (liveness g).1 :=
  liveLoop_inv (SameShape g) (fun g' vis i h => h.trans (liveNode_shape g' vis i)) _ g [] (SameShape.refl g)

theorem liveSweep_below (g0 g : Cfg) (S : Assign) (vis : List Nat)
    (hp : PreSol g0 S) (hs : SameShape g0 g) (hb : Below g S) :
    Below (liveSweep g vis).1 S ∧ SameShape g0 (liveSweep g vis).1 :=
  liveSweep_inv (fun g => Below g S ∧ SameShape g0 g)
    (fun g vis i h => liveNode_below g0 g S vis i hp h.2 h.1) g vis ⟨hb, hs⟩

theorem liveLoop_below (g0 : Cfg) (S : Assign) (hp : PreSol g0 S) (fuel : Nat) :
    ∀ (g : Cfg) (vis : List Nat), SameShape g0 g → Below g S →
      Below (liveLoop fuel g vis).1 S ∧ SameShape g0 (liveLoop fuel g vis).1 :=
  fun g vis hs hb => liveLoop_inv (fun g => Below g S ∧ SameShape g0 g)
    (fun g vis i h => liveNode_below g0 g S vis i hp h.2 h.1) fuel g vis ⟨hb, hs⟩

/-- **C02 (`liveness_least`).** Whatever the pass computes — on any graph, after any number of
    sweeps — is contained in every assignment closed under the liveness rules, provided the
    facts it started from are (the pipeline starts from empty sets). -/
theorem liveness_least (g : Cfg) (S : Assign) (hp : PreSol g S) (hb : Below g S) :
    Below (liveness g).1 S :=
  (liveLoop_below g S hp (liveFuel g) g [] (SameShape.refl g) hb).1

def sweepStep (i : Nat) (acc : Cfg × List Nat × Bool) : Cfg × List Nat × Bool :=
  let (g, vis, ch) := acc
  let (g', c) := liveNode g vis i
  (g', if vis.contains i then vis else i :: vis, ch || c)

/-- As a right fold the sweep needs no generalised accumulator: the head of the list is visited last. -/
theorem liveSweep_eq (g : Cfg) (vis : List Nat) :
    liveSweep g vis = (List.range g.nodes.size).foldr sweepStep (g, vis, false) :=
  List.foldl_reverse

theorem sweep_quiet (g : Cfg) (vis : List Nat) (l : List Nat)
    (h : (l.foldr sweepStep (g, vis, false)).2.2 = false) :
    (l.foldr sweepStep (g, vis, false)).1 = g ∧ ∀ i ∈ l, LiveEqAt g i := by
  induction l with
  | nil => exact ⟨rfl, nofun⟩
  | cons i rest ih =>
    rw [List.foldr_cons] at h ⊢
    generalize rest.foldr sweepStep (g, vis, false) = acc at h ih
    obtain ⟨ga, visa, cha⟩ := acc
    simp only [sweepStep, Bool.or_eq_false_iff] at h ⊢
    obtain ⟨rfl, hr⟩ := ih h.1
    obtain ⟨e, hq⟩ := liveNode_quiet ga visa i _ (Prod.ext rfl h.2)
    exact ⟨e, List.forall_mem_cons.mpr ⟨hq, hr⟩⟩

theorem liveSweep_quiet (g : Cfg) (vis : List Nat) (g' : Cfg) (vis' : List Nat)
    (h : liveSweep g vis = (g', vis', false)) :
    g' = g ∧ ∀ i, i < g.nodes.size → LiveEqAt g i := by
  rw [liveSweep_eq] at h
  have := sweep_quiet g vis (List.range g.nodes.size) (by rw [h])
  rw [h] at this
  exact ⟨this.1, fun i hi => this.2 i (List.mem_range.mpr hi)⟩

/-- **C02 (`liveness_fixpoint`, for any fuel).** When the pass ends because a sweep changed nothing, the
    liveness equations hold at every node of the result. -/
theorem liveLoop_fixpoint (fuel : Nat) : ∀ (g : Cfg) (vis : List Nat) (g' : Cfg),
    liveLoop fuel g vis = (g', true) → ∀ i, i < g'.nodes.size → LiveEqAt g' i := by
  induction fuel with
  | zero => exact fun _ _ _ h => nomatch h
  | succ n ih =>
    intro g vis g' h
    rcases hsw : liveSweep g vis with ⟨g1, vis1, ch⟩
    rw [liveLoop, hsw] at h
    cases ch with
    | true => exact ih g1 vis1 g' h
    | false =>
      obtain ⟨rfl, hq⟩ := liveSweep_quiet g vis g1 vis1 hsw
      cases h
      exact hq

theorem liveness_fixpoint (g g' : Cfg) (h : liveness g = (g', true)) :
    ∀ i, i < g'.nodes.size → LiveEqAt g' i :=
  liveLoop_fixpoint (liveFuel g) g [] g' h

/-- non-vacuity: closed assignments exist for every graph (all 32 registers live everywhere) -/
theorem preSol_top (g : Cfg) : PreSol g (fun _ => (BitVec.allOnes 32, BitVec.allOnes 32)) := by
  intro i
  simp only [Sub.top, implies_true, and_self, ite_self, true_and]
  split <;> trivial

/-- **C02, both halves together.** Started from empty facts, a run of the pass that ends
    because nothing changes returns facts that (a) satisfy the liveness equations at every node
    and (b) are contained in every assignment closed under the rules: the least solution. -/
theorem liveness_least_solution (g g' : Cfg) (h : liveness g = (g', true))
    (h0 : ∀ i, (g.get i).liveIn = 0#32 ∧ (g.get i).liveOut = 0#32) :
    (∀ i, i < g'.nodes.size → LiveEqAt g' i) ∧ ∀ S, PreSol g S → Below g' S := by
  refine ⟨liveness_fixpoint g g' h, fun S hp => ?_⟩
  have := liveness_least g S hp fun i => by rw [(h0 i).1, (h0 i).2]; exact ⟨Sub.zero _, Sub.zero _⟩
  rwa [h] at this

end Rva
