/-
  C04 — the exact silence conditions of the remaining four passes (stack, callee-saved, garbage
  input, overlapping functions) and, with the seven of C04 / C05b, `lints_silent_iff`: for every
  finished graph, when all eleven passes are silent. What stays unproved for C04 is that the
  facts of every conforming program meet these conditions.
-/
import Rva.Proofs.C04
import Rva.Proofs.C05b
namespace Rva

def StackQuiet (cn : CNode) : Prop :=
  ∃ off, AMap.get cn.regOut 2 = some (.ors 2 off) ∧ (0#32).slt off = false ∧
    ∀ r2 off2, cn.node.usesMemoryLocation = some (r2, off2) → r2 = 2 → (off2 + off).slt 0#32 = true

theorem stackQuiet_iff (cn : CNode) (off : Word) (h1 : AMap.get cn.regOut 2 = some (.ors 2 off))
    (h2 : (0#32).slt off = false) : StackQuiet cn ↔ stackUse cn off = [] := by
  unfold StackQuiet stackUse
  simp only [h1, Option.some.injEq, AVal.ors.injEq, true_and]
  rcases cn.node.usesMemoryLocation with _ | ⟨r2, off2⟩ <;> simp [h2]

theorem stackGo_nil_iff (l : List CNode) (acc : List Diag) :
    lintStack.go l acc = [] ↔ acc = [] ∧ ∀ cn ∈ l, StackQuiet cn := by
  induction l generalizing acc with
  | nil => simp [lintStack.go]
  | cons cn rest ih =>
    by_cases hok : StackOk cn
    · obtain ⟨off, h1, h2⟩ := hok
      rw [stack_go_ok cn rest acc off h1 h2, ih, List.forall_mem_cons, stackQuiet_iff cn off h1 h2,
        List.append_eq_nil_iff, and_assoc]
    · obtain ⟨x, e, _⟩ := stack_go_stop cn rest acc hok
      have : ¬ StackQuiet cn := fun ⟨off, h1, h2, _⟩ => hok ⟨off, h1, h2⟩
      simp [e, this]

/-- **C04 (`stack_silent`).** The stack pass is silent exactly when at every node the stack
    pointer is a known position at or below its value at entry, and every access through it lies
    strictly below that value. -/
theorem stack_silent (g : Cfg) : lintStack g = [] ↔ ∀ cn ∈ g.nodes.toList, StackQuiet cn := by
  simp [lintStack, stackGo_nil_iff]

theorem overlapping_silent (g : Cfg) :
    lintOverlapping g = [] ↔ ∀ i, i < g.nodes.size →
      ((g.get i).funcs.length > 1 → (g.get i).funcs.contains i = true → (g.get i).labels = []) := by
  rw [nil_iff_of_mem_iff fun _ => mem_lintOverlapping]
  simp only [← firstLabel_none_iff, Option.eq_none_iff_forall_ne_some, List.mem_range]
  exact ⟨fun h i hi hn he l hl => h i hi l ⟨hn, he, hl⟩, fun h i hi l ⟨hn, he, hl⟩ => h i hi hn he l hl⟩

/-- **C04 (`calleeSaved_silent`).** Silent exactly when, at the exit of every function (visited
    once per label), every callee-saved register either holds its entry value or has no writer
    on any path back from the exit. -/
theorem calleeSaved_silent (g : Cfg) :
    lintCalleeSaved g = [] ↔ ∀ lf ∈ g.labelFunc, ∀ f, g.funcOfEntry lf.2 = some f →
      ∀ r ∈ RegSet.toList calleeSavedSet,
        isOriginal (g.get f.exit).regIn r = true ∨ firstStore g f.exit r = [] := by
  simp only [lintCalleeSaved, List.flatMap_eq_nil_iff, List.mem_reverse]
  refine forall₂_congr fun lf _ => ?_
  unfold calleeSavedAt
  cases g.funcOfEntry lf.2 <;> simp [Decidable.or_iff_not_imp_left]

/-- **C04 (`garbageInput_silent`).** Silent exactly when no register that is live into the
    program entry beyond the program's arguments, or live into a function entry beyond its
    inferred arguments and the callee-saved registers, has a first use with a read operand to
    report. -/
theorem garbageInput_silent (g : Cfg) :
    lintGarbageInput g = [] ↔ ∀ i, i < g.nodes.size → garbageAt g i = [] := by
  simp only [lintGarbageInput, List.flatMap_eq_nil_iff, List.mem_range]

theorem usageDiags_nil_iff (v : String) (g : Cfg) (i : Nat) (s : RegSet) :
    usageDiags v g i s = [] ↔ ∀ r ∈ RegSet.toList s, usageDiag v g i r = [] :=
  List.flatMap_eq_nil_iff

/-- **C04 (`lints_silent_iff`).** For every finished graph: the eleven passes together report
    nothing exactly when all eleven trigger conditions are absent. -/
theorem lints_silent_iff (g : Cfg) :
    runLints g = [] ↔
      -- 1 no computation targets the zero register (other than a `nop`)
      (∀ cn ∈ g.nodes.toList, ∀ rd, cn.node.writesTo = some rd → rd.val = 0 →
        cn.node.canSkipSaveChecks = true ∨ cn.node.isNop = true) ∧
      -- 2 no dead assignment, no use of a caller-saved register after a call
      (∀ i, i < g.nodes.size → (∀ d, ¬ DeadAssign g i d) ∧
        (∀ f nm, callsToFromCfg g (g.get i) = some (f, nm) →
          usageDiags "InvalidUseAfterCall" g i
            ((RegSet.diff callerSavedSet (funcReturns g f)) &&& (g.get i).liveOut) = [])) ∧
      -- 3 code lies in .text
      (∀ cn ∈ g.nodes.toList, cn.node.isInstruction = true → cn.isText = true) ∧
      -- 4 every ecall number is a known constant
      (∀ cn ∈ g.nodes.toList, cn.node.isEcall = true → (knownEcall cn).isSome = true) ∧
      -- 5 everything is reachable; functions are entered by calls only
      (∀ cn ∈ g.nodes.toList,
        (cn.node.isFunctionEntry = true → ∀ p ∈ cn.prevs, cn.funcs = [] ∨
          ((g.get p).node.isProgramEntry = false ∧
            ((g.get p).node.isUnconditionalJump = false ∨ ∀ f ∈ cn.funcs, f ∈ (g.get p).funcs))) ∧
        (cn.node.isFunctionEntry = false → cn.node.isProgramEntry = false → cn.prevs ≠ [])) ∧
      -- 6 nothing is read that the program / function was not given
      (∀ i, i < g.nodes.size → garbageAt g i = []) ∧
      -- 7 sp is a known position at or below entry, accesses lie below entry
      (∀ cn ∈ g.nodes.toList, StackQuiet cn) ∧
      -- 8 at every exit each callee-saved register holds its entry value or has no writer on a path back
      (∀ lf ∈ g.labelFunc, ∀ f, g.funcOfEntry lf.2 = some f → ∀ r ∈ RegSet.toList calleeSavedSet,
        isOriginal (g.get f.exit).regIn r = true ∨ firstStore g f.exit r = []) ∧
      -- 9 no saved register is read while it still holds its entry value
      (∀ cn ∈ g.nodes.toList, ∀ rd, ¬ GarbageRead cn rd) ∧
      -- 10 no saved register is overwritten before it was stored
      (∀ cn ∈ g.nodes.toList, ∀ rd, ¬ LostValue cn rd) ∧
      -- 11 no labelled entry lies in several functions
      (∀ i, i < g.nodes.size →
        ((g.get i).funcs.length > 1 → (g.get i).funcs.contains i = true → (g.get i).labels = [])) := by
  rw [runLints_nil_iff, saveToZero_silent, deadValue_silent, invalidSegment_silent, unknownEcall_silent,
    controlFlow_silent, garbageInput_silent, stack_silent, calleeSaved_silent, garbageRead_silent,
    lostRegister_silent, overlapping_silent]

end Rva
