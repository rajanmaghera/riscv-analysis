/-
  C13 — an end-of-line comment is invisible to the parse loop.

  `parseStep_local` (C15b) says that a statement which is not a data directive or a macro definition is
  read the same way whatever follows its tokens. So the statement followed by a comment token and the
  statement followed directly by the rest of the file leave the loop in the same state: the same node is
  recorded, the comment token is consumed by a step that records nothing (`blank_item_invisible`).
  The statements excluded by `PlainHead` are exactly where the code does differ: a data list that
  continues on the next line is ended by a comment (known finding F-69).
-/
import Rva.Proofs.C13b
import Rva.Proofs.C15b
namespace Rva

/-- **C13 (`trailing_comment_invisible`).** A statement (not a data directive, not a macro definition)
    that parses to a node from exactly its own tokens, followed by a comment token: the parse loop
    reaches the same state as for the statement without the comment - same nodes, same errors, same
    remaining text - for every continuation of the file, every stack of including files and every
    accumulated result. -/
theorem trailing_comment_invisible (stmt : List PItem) (hp : PlainHead stmt) (n : Node)
    (hok : parseStep stmt = (.ok n, [])) (hinc : n.includePath = none)
    (c : FTok) (hc : c.kind = .comment) (fuel : Nat) (rest : List PItem)
    (below : List (List PItem)) (r : Reader) (nodes : List Node) (errs : List ParseErr) :
    parseLoop (fuel + 2) ((stmt ++ .tok c :: rest) :: below) r nodes errs =
      parseLoop (fuel + 1) ((stmt ++ rest) :: below) r nodes errs := by
  have hs : StepOK stmt := .of_ok hp hok hinc
  rw [parseLoop_stepOK hs, parseLoop_stepOK hs, nextTop_ok hok]
  exact blank_item_invisible fuel (.tok c) ⟨c, rfl, Or.inr hc⟩ _ below r _ _

/-- the same for a malformed statement that is reported where it stands and the rest of whose line is
    discarded: what is discarded includes the comment -/
theorem recover_comment (rem : List PItem) (c : FTok) (hc : c.kind = .comment) (rest : List PItem)
    (hrem : ∀ it ∈ rem, ∀ t, it = .tok t → t.kind ≠ .newline) :
    recover (rem ++ .tok c :: rest) = recover (rem ++ rest) := by
  have h : ∀ x ∈ rem, x.isNewline = false := by
    intro x hx
    cases x with
    | tok t => simpa [PItem.isNewline] using hrem _ hx t rfl
    | _ => rfl
  rw [recover_skip _ _ h, recover_skip _ _ h, recover_cons]
  simp [PItem.isNewline, hc]

/-! non-vacuity: `nop` meets the hypotheses of `trailing_comment_invisible` -/
def nopTok : FTok := { kind := .symbol, payload := "nop", text := "nop", range := ⟨⟨0, 0, 0⟩, ⟨0, 2, 2⟩⟩, file := 0 }
example : (parseStep [.tok nopTok]).2 = [] := by decide +kernel
example : (match (parseStep [.tok nopTok]).1 with | .ok n => n.includePath.isNone | _ => false) = true := by decide +kernel
example : PlainHead [.tok nopTok] := plainHead_tok _ (by simp [nopTok])

end Rva
