/-
  C07 / C09 at the parser level — where a failed statement's error and a parsed statement's operands
  point.

  `EH s0 K tk m`: run from any state whose items are a suffix of the statement's initial items
  `s0`, with every token of `K` (the tokens the surrounding code already holds) *near* — the token
  of an item consumed so far or of the first item not yet consumed (a look-ahead) — the parser
  computation `m` ends with every token of its error (or, on success, every token `tk` extracts
  from its result) near as well. `K` and `tk` are those of `Built` (ParserInv), and every `Built`
  computation has the property (`Built.eh`). For the statement parser, with `tk := Node.opToks`,
  that is both `parseStep_error_located` and `parseStep_operands_located`; the latter covers the
  operands that pseudo-instruction expansion makes up (`x0`, `ra`, a zero offset), which are placed
  on the mnemonic or on a neighbouring operand.
-/
import Rva.Proofs.C07b
namespace Rva

def PItem.ftok : PItem → FTok
  | .tok t => t
  | .strErr t _ _ => t
  | .unexpected t => t

/-- `t` is the token of one of the first `s0.length - cur.length + 1` items of `s0`: an item consumed
    on the way from `s0` to `cur`, or the first item of `cur` -/
def Near (s0 cur : List PItem) (t : FTok) : Prop :=
  ∃ i, i ≤ s0.length - cur.length ∧ (s0[i]?).map PItem.ftok = some t

theorem Near.mono {s0 cur cur' : List PItem} {t : FTok} (h : Near s0 cur t) (hs : cur' <:+ cur) :
    Near s0 cur' t := by
  obtain ⟨i, hi, ht⟩ := h
  have := hs.length_le
  exact ⟨i, by omega, ht⟩

theorem Near.head {s0 : List PItem} {it : PItem} {rest cur : List PItem} (h : it :: rest <:+ s0)
    (hc : cur = rest ∨ cur = it :: rest) : Near s0 cur it.ftok := by
  obtain ⟨pre, rfl⟩ := h
  refine ⟨pre.length, ?_, by simp⟩
  rcases hc with rfl | rfl <;> simp <;> omega

def EH {α} (s0 : List PItem) (K : List FTok) (tk : α → List FTok) (m : P α) : Prop :=
  ∀ s : PState, s.items <:+ s0 → (∀ t ∈ K, Near s0 s.items t) →
    match runP m s with
    | (.ok a, s') => ∀ t ∈ tk a, Near s0 s'.items t
    | (.error e, s') => ∀ t ∈ e.toks, Near s0 s'.items t

theorem EH.weaken {α} {s0 : List PItem} {K : List FTok} {tk tk' : α → List FTok} {m : P α}
    (h : EH s0 K tk m) (hk : ∀ a, tk' a ⊆ tk a) : EH s0 K tk' m := by
  intro s hs hK
  have := h s hs hK
  generalize runP m s = r at this
  rcases r with ⟨_ | a, s'⟩
  · exact this
  · exact fun t ht => this t (hk a ht)

theorem Built.eh {L : Prop} {α} {K : List FTok} {tk : α → List FTok} {m : P α} (h : Built L K tk m)
    (s0 : List PItem) : EH s0 K tk m := by
  induction h with
  | pure h | throw _ h => exact fun _ _ hK t ht => hK t (h ht)
  | rawNow | get | dropBad => exact fun _ _ _ => List.forall_mem_nil _
  | @bind _ _ K _ _ m f hm hf ihm ihf =>
    intro s hs hK
    have h1 := ihm s hs hK
    -- what the held tokens need of `m`: it leaves a suffix
    have g1 := (hm.good s).1
    rw [runP_bind]
    generalize runP m s = r at h1 g1
    rcases r with ⟨_ | a, s'⟩
    · exact h1
    · refine ihf a s' (g1.trans hs) fun t ht => ?_
      rcases List.mem_append.mp ht with ht | ht
      · exact h1 t ht
      · exact (hK t ht).mono g1
  | getAny =>
    intro s hs _
    rw [runP_getAny]
    rcases hi : s.items with _ | ⟨it, rest⟩
    · exact List.forall_mem_nil _
    · have := Near.head (hi ▸ hs) (.inl rfl)
      cases it <;> simpa [LexErr.toks, PItem.ftok] using this
  | peekAny =>
    intro s hs _
    rw [runP_peekAny]
    rcases hi : s.items with _ | ⟨it, rest⟩
    · exact List.forall_mem_nil _
    · have := Near.head (hi ▸ hs) (.inr hi)
      cases it <;> simpa [LexErr.toks, PItem.ftok] using this

theorem parseInst_ops (s0 : List PItem) (m : FTok) (v : String) :
    EH s0 [m] Node.opToks (parseInst m v) := (parseInst_stmt (L := True) m v).built.eh s0

theorem parseNode_ops (s0 : List PItem) : EH s0 [] Node.opToks parseNode := parseNode_stmt.built.eh s0

theorem parseNode_eh (s0 : List PItem) : EH s0 [] (fun _ => []) parseNode :=
  (parseNode_ops s0).weaken fun _ => List.nil_subset _

/-! For an arbitrary `sub`: where the expansions of the pseudo-instructions put the operands they make up. -/

theorem pseudoRR_toks {sub : String} {m : FTok} {rd rs1 : W Reg} {raw : RawTok} {n : Node}
    (h : pseudoRR sub m rd rs1 raw = some n) : ∀ t ∈ n.opToks, t = m ∨ t = rd.tok ∨ t = rs1.tok := by
  unfold pseudoRR at h
  split at h <;> simp only [Option.some.injEq, reduceCtorEq] at h <;> subst h <;>
    simp [Node.opToks, wi, x0, imm0]

theorem pseudoB2_toks {sub : String} {x y : W Reg} {i : String} {a b : W Reg}
    (h : pseudoB2 sub x y = some (i, a, b)) : (a.tok = x.tok ∨ a.tok = y.tok) ∧ (b.tok = x.tok ∨ b.tok = y.tok) := by
  unfold pseudoB2 at h
  split at h <;> simp only [Option.some.injEq, Prod.mk.injEq, reduceCtorEq] at h <;>
    (obtain ⟨_, ha, hb⟩ := h; subst ha; subst hb; simp)

theorem parseStep_near (items : List PItem) :
    match parseStep items with
    | (.ok n, rest) => ∀ t ∈ n.opToks, Near items rest t
    | (.error e, rest) => ∀ t ∈ e.toks, Near items rest t := by
  have := parseNode_ops items { items := items } (List.suffix_refl _) (List.forall_mem_nil _)
  rw [parseStep_eq]
  generalize runP parseNode { items := items } = r at this
  rcases r with ⟨_ | _, _⟩ <;> exact this

/-- **C07 (`parseStep_error_located`).** When a statement fails to parse, the token its error
    carries — the location of the reported parse error — is the token of one of the items that
    statement consumed, or of the first item it left (a look-ahead it refused): with `k` items
    consumed it is one of `items[0..k]`. A reported error never points into an earlier statement,
    nor further down the file than the first unread item. -/
theorem parseStep_error_located (items : List PItem) (e : LexErr)
    (h : (parseStep items).1 = .error e) :
    ∀ t ∈ e.toks, ∃ i, i ≤ items.length - (parseStep items).2.length ∧
      (items[i]?).map PItem.ftok = some t := by
  have := parseStep_near items
  rw [← Prod.eta (parseStep items), h] at this
  exact this

/-- …in particular it is the token of an item of the statement's own input. -/
theorem parseStep_error_in_items (items : List PItem) (e : LexErr)
    (h : (parseStep items).1 = .error e) :
    ∀ t ∈ e.toks, ∃ it ∈ items, it.ftok = t := by
  intro t ht
  obtain ⟨i, _, hi⟩ := parseStep_error_located items e h t ht
  obtain ⟨it, hg, rfl⟩ := Option.map_eq_some_iff.mp hi
  exact ⟨it, List.mem_of_getElem? hg, rfl⟩

/-- **C09 (`parseStep_operands_located`).** Every operand of a parsed instruction or label
    (`Node.opToks`; not the operands of directives, and not the two nodes a load or store with a label
    expands into, which arrive as `needTwoNodes`) - registers, immediate, label, CSR, the mnemonic, and
    the operands that pseudo-instruction expansion makes up -
    carries the token of one of the items that statement consumed (or of the first item it looked at
    and left): with `k` items consumed it is one of `items[0..k]`. A diagnostic placed on an operand
    points into the statement it is about. -/
theorem parseStep_operands_located (items : List PItem) (n : Node)
    (h : (parseStep items).1 = .ok n) :
    ∀ t ∈ n.opToks, ∃ i, i ≤ items.length - (parseStep items).2.length ∧
      (items[i]?).map PItem.ftok = some t := by
  have := parseStep_near items
  rw [← Prod.eta (parseStep items), h] at this
  exact this

end Rva
