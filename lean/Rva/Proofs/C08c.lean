/-
  C08 — decoding: which operand goes where, for every operand value.

  For eight of the instruction classes of the format table (`format_table_correct`; not the jumps
  and `Basic`), the statement parser
  builds, from the operand tokens in the order the assembly manual writes them, the node whose
  destination, source registers and immediate are those operands - for every register and every
  immediate.
-/
import Rva.Proofs.C09b
namespace Rva

def afterToks (raw : RawTok) (ts : List FTok) (rest : List PItem) : PState :=
  { items := rest, raw := rawAfter raw (ts.map PItem.tok) }

theorem afterToks_step (raw : RawTok) (ts : List FTok) (t : FTok) (rest : List PItem) :
    afterToks (afterToks raw ts (.tok t :: rest)).raw [t] rest = afterToks raw (ts ++ [t]) rest := by
  simp [afterToks, rawAfter, List.foldl_append]

-- stated on `afterToks` states with `ts ++ [t]` on the right, the equations of the primitives chain by
-- rewriting alone

theorem runP_getAny_tok (raw : RawTok) (ts : List FTok) (t : FTok) (rest : List PItem) :
    runP getAny (afterToks raw ts (.tok t :: rest)) = (.ok t, afterToks raw (ts ++ [t]) rest) := by
  rw [runP_getAny, ← afterToks_step]
  simp [afterToks, rawAfter]

theorem runP_peekAny_tok (raw : RawTok) (ts : List FTok) (t : FTok) (rest : List PItem) :
    runP peekAny (afterToks raw ts (.tok t :: rest)) = (.ok t, afterToks raw ts (.tok t :: rest)) := by
  rw [runP_peekAny]; rfl

theorem runP_liftE_ok {α} (a : α) (s : PState) : runP (liftE (.ok a : Except LexErr α)) s = (.ok a, s) :=
  runP_liftE _ s

/-- **C08 (`decode_arith`).** `op rd, rs1, rs2`: destination, first and second source in the order
    written, for every register-register mnemonic and all registers. -/
theorem decode_arith (m : FTok) (v sub : String) (hv : instType v = some ("Arith", sub))
    (a b c : FTok) (ra rb rc : W Reg) (ha : a.asReg = .ok ra) (hb : b.asReg = .ok rb) (hc : c.asReg = .ok rc)
    (rest : List PItem) (raw : RawTok) :
    runP (parseInst m v) { items := .tok a :: .tok b :: .tok c :: rest, raw := raw } =
      (.ok (.arith ⟨sub, m⟩ ra rb rc (afterToks raw [a, b, c] rest).raw), afterToks raw [a, b, c] rest) := by
  show runP _ (afterToks raw [] _) = _
  simp only [parseInst, hv, runP_bind, getReg, runP_getAny_tok, runP_liftE, ha, hb, hc, runP_rawNow, runP_pure]
  rfl

/-- **C08 (`decode_iarith`).** `op rd, rs1, imm`. -/
theorem decode_iarith (m : FTok) (v sub : String) (hv : instType v = some ("IArith", sub))
    (a b c : FTok) (ra rb : W Reg) (ic : W Word) (ha : a.asReg = .ok ra) (hb : b.asReg = .ok rb)
    (hc : c.asImm = .ok ic) (rest : List PItem) (raw : RawTok) :
    runP (parseInst m v) { items := .tok a :: .tok b :: .tok c :: rest, raw := raw } =
      (.ok (.iarith ⟨sub, m⟩ ra rb ic (afterToks raw [a, b, c] rest).raw), afterToks raw [a, b, c] rest) := by
  show runP _ (afterToks raw [] _) = _
  simp only [parseInst, hv, runP_bind, getReg, getImm, runP_getAny_tok, runP_liftE, ha, hb, hc, runP_rawNow, runP_pure]
  rfl

/-- **C08 (`decode_branch`).** `bxx rs1, rs2, label`. -/
theorem decode_branch (m : FTok) (v sub : String) (hv : instType v = some ("Branch", sub))
    (a b c : FTok) (ra rb : W Reg) (lc : W String) (ha : a.asReg = .ok ra) (hb : b.asReg = .ok rb)
    (hc : c.asLabel = .ok lc) (rest : List PItem) (raw : RawTok) :
    runP (parseInst m v) { items := .tok a :: .tok b :: .tok c :: rest, raw := raw } =
      (.ok (.branch ⟨sub, m⟩ ra rb lc (afterToks raw [a, b, c] rest).raw), afterToks raw [a, b, c] rest) := by
  show runP _ (afterToks raw [] _) = _
  simp only [parseInst, hv, runP_bind, getReg, getLabel, runP_getAny_tok, runP_liftE, ha, hb, hc, runP_rawNow, runP_pure]
  rfl

/-- **C08 (`decode_upper`).** `lui / auipc rd, imm20`: the operand that fits the 20-bit field is
    placed in the upper 20 bits; one that does not fit is rejected on the literal. -/
theorem decode_upper (m : FTok) (v sub : String) (hv : instType v = some ("UpperArith", sub))
    (a b : FTok) (ra : W Reg) (ib : W Word) (ha : a.asReg = .ok ra) (hb : b.asImm = .ok ib)
    (rest : List PItem) (raw : RawTok) :
    runP (parseInst m v) { items := .tok a :: .tok b :: rest, raw := raw } =
      (if upperFits ib.val then
        .ok (.iarith ⟨sub, m⟩ ra (x0 m) ⟨ib.val <<< 12, ib.tok⟩ (afterToks raw [a, b] rest).raw)
       else .error (.expected ["IMMEDIATE"] ib.tok), afterToks raw [a, b] rest) := by
  show runP _ (afterToks raw [] _) = _
  simp only [parseInst, hv, runP_bind, getReg, getImm, runP_getAny_tok, runP_liftE, ha, hb]
  cases upperFits ib.val <;> simp only [Bool.not_true, Bool.not_false, Bool.false_eq_true, if_true, if_false,
    runP_bind, runP_rawNow, runP_pure, runP_throw] <;> rfl

/-- **C08 (`decode_csr`).** `csrrx rd, csr, rs1`. -/
theorem decode_csr (m : FTok) (v sub : String) (hv : instType v = some ("Csr", sub))
    (a b c : FTok) (ra : W Reg) (cb : W Nat) (rc : W Reg) (ha : a.asReg = .ok ra) (hb : b.asCsrImm = .ok cb)
    (hc : c.asReg = .ok rc) (rest : List PItem) (raw : RawTok) :
    runP (parseInst m v) { items := .tok a :: .tok b :: .tok c :: rest, raw := raw } =
      (.ok (.csr ⟨sub, m⟩ ra cb rc (afterToks raw [a, b, c] rest).raw), afterToks raw [a, b, c] rest) := by
  show runP _ (afterToks raw [] _) = _
  simp only [parseInst, hv, runP_bind, getReg, getCsrImm, runP_getAny_tok, runP_liftE, ha, hb, hc, runP_rawNow, runP_pure]
  rfl

/-- **C08 (`decode_csri`).** `csrrxi rd, csr, imm`. -/
theorem decode_csri (m : FTok) (v sub : String) (hv : instType v = some ("CsrI", sub))
    (a b c : FTok) (ra : W Reg) (cb : W Nat) (ic : W Word) (ha : a.asReg = .ok ra) (hb : b.asCsrImm = .ok cb)
    (hc : c.asImm = .ok ic) (rest : List PItem) (raw : RawTok) :
    runP (parseInst m v) { items := .tok a :: .tok b :: .tok c :: rest, raw := raw } =
      (.ok (.csri ⟨sub, m⟩ ra cb ic (afterToks raw [a, b, c] rest).raw), afterToks raw [a, b, c] rest) := by
  show runP _ (afterToks raw [] _) = _
  simp only [parseInst, hv, runP_bind, getReg, getCsrImm, getImm, runP_getAny_tok, runP_liftE, ha, hb, hc,
    runP_rawNow, runP_pure]
  rfl

/-- **C08 (`decode_load`).** `lx rd, imm(rs1)`: destination, then offset and base. -/
theorem decode_load (m : FTok) (v sub : String) (hv : instType v = some ("Load", sub))
    (a b lp c rp : FTok) (ra : W Reg) (ib : W Word) (rc : W Reg) (ha : a.asReg = .ok ra) (hb : b.asImm = .ok ib)
    (hlp : lp.isLParen = true) (hc : c.asReg = .ok rc) (hrp : rp.isRParen = true)
    (rest : List PItem) (raw : RawTok) :
    runP (parseInst m v) { items := .tok a :: .tok b :: .tok lp :: .tok c :: .tok rp :: rest, raw := raw } =
      (.ok (.load ⟨sub, m⟩ ra rc ib (afterToks raw [a, b, lp, c, rp] rest).raw),
       afterToks raw [a, b, lp, c, rp] rest) := by
  show runP _ (afterToks raw [] _) = _
  simp only [parseInst, hv, runP_bind, getReg, expectRParen, runP_getAny_tok, runP_peekAny_tok, runP_liftE,
    ha, hb, hlp, hc, hrp, if_true, runP_rawNow, runP_pure]
  rfl

/-- **C08 (`decode_store`).** `sx rs2, imm(rs1)`: the stored register first, then offset and base. -/
theorem decode_store (m : FTok) (v sub : String) (hv : instType v = some ("Store", sub))
    (a b lp c rp : FTok) (ra : W Reg) (ib : W Word) (rc : W Reg) (ha : a.asReg = .ok ra) (hb : b.asImm = .ok ib)
    (hlp : lp.isLParen = true) (hc : c.asReg = .ok rc) (hrp : rp.isRParen = true)
    (rest : List PItem) (raw : RawTok) :
    runP (parseInst m v) { items := .tok a :: .tok b :: .tok lp :: .tok c :: .tok rp :: rest, raw := raw } =
      (.ok (.store ⟨sub, m⟩ rc ra ib (afterToks raw [a, b, lp, c, rp] rest).raw),
       afterToks raw [a, b, lp, c, rp] rest) := by
  show runP _ (afterToks raw [] _) = _
  simp only [parseInst, hv, runP_bind, getReg, expectRParen, runP_getAny_tok, runP_peekAny_tok, runP_liftE,
    ha, hb, hlp, hc, hrp, if_true, runP_rawNow, runP_pure]
  rfl

end Rva
