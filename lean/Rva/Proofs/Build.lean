/-
  Graph construction (`buildCfg`). `buildStep_spec` is the one place where `buildStep` is taken
  apart: a label is refused if its name is defined already and is otherwise only recorded; any other
  source node never fails, defines no name, and appends nodes of the three shapes `Pushed`. So a
  property of those three holds of every node of the constructed graph (`buildCfg_pushed`). The
  scan's failures are in C16.
-/
import Rva.Proofs.Graph
namespace Rva

/-- the graph nodes `buildStep` makes of the source node `n`: a function entry in front of a
    called label and the instruction behind it, or the instruction under labels nobody calls -/
inductive Pushed (calls : List (W String)) (n : Node) : CNode → Prop
  | entry (cur : List (W String)) (isText isInt : Bool) : cur.any (fun l => nameIn calls l.val) = true →
      Pushed calls n { node := .funcEntry n.fileOf n.tok isInt, labels := cur, isText := isText }
  | body (isText : Bool) : Pushed calls n { node := n, labels := [], isText := isText }
  | plain (cur : List (W String)) (isText : Bool) : ¬ cur.any (fun l => nameIn calls l.val) = true →
      Pushed calls n { node := n, labels := cur, isText := isText }

theorem buildStep_spec (calls : List (W String)) (p : Option (List (W String))) (st : BuildSt) (n : Node) :
    (∃ w t, n = .label w t ∧ buildStep calls p st n = if w.val ∈ st.all then .error (.duplicateLabel w)
      else .ok { st with cur := st.cur ++ [w], all := w.val :: st.all }) ∨
    ((∀ w t, n ≠ .label w t) ∧ ∃ st' new, buildStep calls p st n = .ok st' ∧ st'.all = st.all ∧
      st'.out.toList = st.out.toList ++ new ∧ ∀ c ∈ new, Pushed calls n c) := by
  -- `split` wants the `match` outside the binders
  generalize hr : buildStep calls p st n = r
  unfold buildStep at hr
  split at hr
  · exact .inl ⟨_, _, rfl, by rw [← hr]; simp⟩
  · exact .inr ⟨fun _ _ => Node.noConfusion, _, [], hr.symm, rfl, by simp, by simp⟩
  · exact .inr ⟨fun _ _ => Node.noConfusion, _, [], hr.symm, rfl, by simp, by simp⟩
  · exact .inr ⟨fun _ _ => Node.noConfusion, _, [], hr.symm, rfl, by simp, by simp⟩
  · rename_i hn _ _ _
    refine .inr ⟨hn, ?_⟩
    split at hr <;> rename_i hc
    · exact ⟨_, [_, _], hr.symm, rfl, by rw [Array.toList_push, Array.toList_push, List.append_assoc]; rfl,
        by simp [Pushed.entry _ _ _ hc, Pushed.body]⟩
    · exact ⟨_, [_], hr.symm, rfl, Array.toList_push, by simp [Pushed.plain _ _ hc]⟩

theorem buildCfg_pushed {Q : CNode → Prop} (nodes : List Node) (p : Option (List (W String))) (g : Cfg)
    (hQ : ∀ n ∈ nodes, ∀ c, Pushed (allCallNames nodes p) n c → Q c)
    (h : buildCfg nodes p = .ok g) (i : Nat) (hi : i < g.nodes.size) : Q (g.get i) := by
  have loop : ∀ (l : List Node), (∀ n ∈ l, n ∈ nodes) → ∀ (st st' : BuildSt), (∀ c ∈ st.out.toList, Q c) →
      buildLoop (allCallNames nodes p) p l st = .ok st' → ∀ c ∈ st'.out.toList, Q c := by
    intro l
    induction l with
    | nil => intro _ st st' h hs; injection hs with hs; exact hs ▸ h
    | cons n rest ih =>
      intro hl st st' h hs
      rw [buildLoop] at hs
      split at hs
      · rename_i st1 h1
        refine ih (fun m hm => hl m (List.mem_cons_of_mem _ hm)) st1 st' ?_ hs
        rcases buildStep_spec (allCallNames nodes p) p st n with ⟨w, t, rfl, e⟩ | ⟨_, st2, new, e, _, ho, hn⟩ <;>
          rw [e] at h1
        · split at h1
          · exact absurd h1 (by simp)
          · injection h1 with h1; subst h1; exact h
        · injection h1 with h1; subst h1
          rw [ho]
          exact fun c hc => (List.mem_append.mp hc).elim (h c) fun hc => hQ n (hl n List.mem_cons_self) c (hn c hc)
      · exact absurd hs (by simp)
  unfold buildCfg at h
  split at h
  · unfold buildNodes at h
    split at h
    · rename_i st hb
      injection h with h
      subst h
      refine loop nodes (fun _ h => h) {} st (fun c hc => by simp at hc) hb _ ?_
      rw [Cfg.get_of_lt _ i hi]; exact Array.getElem_mem_toList hi
    · exact absurd h (by simp)
  · exact absurd h (by simp)

end Rva
