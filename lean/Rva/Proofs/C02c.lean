/-
  C02, third clause — "an 'unused value' warning is given only for an assignment no path reads" -
  and the two facts about inferred signatures (`arguments_cover_reads`,
  `returns_cover_caller_reads`). All three are the path theorem `live_path_sound_ext` applied at
  the successors of a node.
-/
import Rva.Proofs.C02Paths
import Rva.Proofs.C05b
namespace Rva

/-- **C02 (`unused_warning_only_if_unread`).** In any solution of the liveness equations, if some
    successor of an assignment starts a path on which the assigned register is read (by an
    instruction, by a callee as an argument, by the environment as a documented argument) before it
    is overwritten, the trigger of the dead-assignment diagnostic is absent at that assignment. -/
theorem unused_warning_only_if_unread (g : Cfg) (heq : ∀ i, LiveEqAt g i) (i : Nat) (d : W Reg)
    (s : Nat) (hs : s ∈ (g.get i).nexts) (hp : LivePathExt g d.val s) : ¬ DeadAssign g i d := by
  rintro ⟨_, _, hdead, _⟩
  have hlive := live_edge g i s (heq i) hs d.val (live_path_sound_ext g heq d.val s hp)
  exact Bool.false_ne_true (hdead.symm.trans hlive)

/-- **C02 (`unused_warning_sound`).** The contrapositive: where the trigger holds - which is where
    the lint pass reports a dead assignment (`mem_deadValueAt_nocall`) - no successor starts such
    a path. -/
theorem unused_warning_sound (g : Cfg) (heq : ∀ i, LiveEqAt g i) (i : Nat) (d : W Reg)
    (h : DeadAssign g i d) : ∀ s ∈ (g.get i).nexts, ¬ LivePathExt g d.val s :=
  fun s hs hp => unused_warning_only_if_unread g heq i d s hs hp h

/-- **C02 (`arguments_cover_reads`).** The inferred argument registers of a function contain every
    argument register that some path from its entry reads before overwriting it. -/
theorem arguments_cover_reads (g : Cfg) (heq : ∀ i, LiveEqAt g i) (f : Func) (r : Reg)
    (ha : RegSet.mem argumentSet r = true)
    (s : Nat) (hs : s ∈ (g.get f.entry).nexts) (hp : LivePathExt g r s) :
    RegSet.mem (funcArguments g f) r = true := by
  have := live_edge g f.entry s (heq f.entry) hs r (live_path_sound_ext g heq r s hp)
  simp [funcArguments, this, ha]

/-- **C02 (`returns_cover_caller_reads`).** The inferred return registers of a function contain
    every return register that some caller reads after a call of it before overwriting it. -/
theorem returns_cover_caller_reads (g : Cfg) (heq : ∀ i, LiveEqAt g i) (c : Nat) (f : Func) (nm : W String)
    (hc : callsToFromCfg g (g.get c) = some (f, nm)) (r : Reg) (hr : RegSet.mem returnSet r = true)
    (s : Nat) (hs : s ∈ (g.get c).nexts) (hp : LivePathExt g r s) :
    RegSet.mem (funcReturns g f) r = true := by
  have := (live_call g c f nm (heq c) hc r).2.2
    (live_edge g c s (heq c) hs r (live_path_sound_ext g heq r s hp))
  simp [funcReturns, this, hr]

end Rva
