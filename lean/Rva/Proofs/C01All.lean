/-
  C01, the layers together — `exec_sound_all`: register claims and stack-slot claims hold along
  every execution over the step kinds of all the layers. Not covered: CSR instructions and
  sub-word memory accesses. `exec_sound_mem` is its restriction to the steps of `MStep`.
-/
import Rva.Proofs.C01Mem
namespace Rva

theorem entry_memOut_nil (cn : CNode) (inReg : AMap Reg) (inMem : AMap MemLoc) (regOut : AMap Reg)
    (he : cn.node.isAnyEntry = true) : nodeMemOut cn inReg inMem regOut = [] := by
  unfold nodeMemOut
  simp only [he, if_true]
  have hz : zeroConsts ([] : AMap MemLoc) inMem = [] :=
    zeroConsts_induct (· = []) [] inMem rfl fun acc k i ha hk => by
      rw [ha] at hk; rcases hk with hk | hk <;> cases hk
  have hp : rulePushValueToCsrMemory cn.node [] regOut = [] := by
    unfold rulePushValueToCsrMemory; rw [(entry_facts cn.node he).2.2.2.2.2]
  rw [hz, hp]
  rfl

inductive MStep (g : Cfg) (i : Nat) (s s' : MState) : Prop where
  | plain (rd : Reg) (v : Word) : plainValue s (g.get i).node = some (rd, v) → rd < 32 →
      PlainStep s s' rd v → s'.mem = s.mem → MStep g i s s'
  | quiet : (g.get i).node.isQuiet = true → (g.get i).node.genMemoryValue = none →
      (∀ r, s'.reg r = s.reg r) → s'.entry = s.entry → s'.addr = s.addr →
      (∀ off v, AMap.get (g.get i).memIn (.stack off) = some v →
        s'.mem (s.entry 2 + off) = s.mem (s.entry 2 + off)) → MStep g i s s'
  | storeSp (inst : W String) (rs1 rs2 : W Reg) (imm : W Word) (t : RawTok) (cur : Word) :
      (g.get i).node = .store inst rs1 rs2 imm t → rs1.val = 2 →
      stackOffset (g.get i).regIn = some cur →
      (∀ r, s'.reg r = s.reg r) → s'.entry = s.entry → s'.addr = s.addr →
      (∀ a, s'.mem a = if a = s.reg 2 + imm.val then s.reg rs2.val else s.mem a) → MStep g i s s'
  | load (inst : W String) (rd rs1 : W Reg) (imm : W Word) (t : RawTok) :
      (g.get i).node = .load inst rd rs1 imm t → isWordLoad inst.val = true → rd.val < 32 → rs1.val ≠ rd.val →
      (∀ c, AMap.get (g.get i).regIn rs1.val ≠ some (.vcsr c)) →
      LoadStep s s' rd.val rs1.val imm.val → MStep g i s s'

inductive MExec (g : Cfg) (V : List Nat) (i0 : Nat) (s0 : MState) : Nat → MState → Prop where
  | start : MExec g V i0 s0 i0 s0
  | step (i j : Nat) (s s' : MState) : MExec g V i0 s0 i s → MStep g i s s' →
      i ∈ V → j ∈ V → i ∈ (g.get j).prevs → MExec g V i0 s0 j s'

inductive AStep (g : Cfg) (i : Nat) (s s' : MState) : Prop where
  | mem : MStep g i s s' → AStep g i s s'
  | call (inst : W String) (rd : W Reg) (name : W String) (t : RawTok) :
      (g.get i).node = .jumpLink inst rd name t → rd.val = 1 →
      (∀ r, r ∉ Gen.callerSavedSet → r ≠ 1 → s'.reg r = s.reg r) →
      s'.entry = s.entry → s'.addr = s.addr →
      (∀ off v, AMap.get (g.get i).memIn (.stack off) = some v →
        s'.mem (s.entry 2 + off) = s.mem (s.entry 2 + off)) → AStep g i s s'
  | ecall : (g.get i).node.isEcall = true →
      (∀ r, r ∉ ecallKills (g.get i) (g.get i).regIn → s'.reg r = s.reg r) →
      s'.entry = s.entry → s'.addr = s.addr →
      (∀ off v, AMap.get (g.get i).memIn (.stack off) = some v →
        s'.mem (s.entry 2 + off) = s.mem (s.entry 2 + off)) → AStep g i s s'
  | entry : (g.get i).node.isAnyEntry = true →
      ((g.get i).node.isFunctionEntry = true ∨ (g.get i).regIn = []) →
      (∀ r, s'.entry r = s'.reg r) → s'.reg 0 = 0#32 → AStep g i s s'

inductive AExec (g : Cfg) (V : List Nat) (i0 : Nat) (s0 : MState) : Nat → MState → Prop where
  | start : AExec g V i0 s0 i0 s0
  | step (i j : Nat) (s s' : MState) : AExec g V i0 s0 i s → AStep g i s s' →
      i ∈ V → j ∈ V → i ∈ (g.get j).prevs → AExec g V i0 s0 j s'

theorem zero_notin_ecallKills (cn : CNode) (inReg : AMap Reg) : (0 : Reg) ∉ ecallKills cn inReg := by
  unfold ecallKills ecallSignature
  cases knownEcall { cn with regIn := inReg } with
  | none => decide
  | some c =>
    dsimp only
    cases hrow : Gen.ecallTable.find? (fun row => row.1 == c.toInt) with
    | none => decide
    | some row =>
      -- the results of a listed call are argument registers
      rw [RegSet.mem_toList, RegSet.mem_ofList _ 0 (by decide)]
      exact fun h0 => absurd ((ecall_table_args_only row (List.mem_of_find?_eq_some hrow)).2 0
        (List.contains_iff_mem.mp h0)) (by decide)

theorem mstep_sound (g : Cfg) (i : Nat) (s s' : MState) (hwf : AMap.WF (g.get i).memIn)
    (ihs : Sound s (g.get i).regIn) (ihm : MemSound s (g.get i).memIn) (ihe : s.entry 0 = 0#32)
    (ihz : s.reg 0 = 0#32) (hstep : MStep g i s s') :
    Sound s' (nodeRegOut (g.get i) (g.get i).regIn (g.get i).memIn) ∧
    MemSound s' (nodeMemOut (g.get i) (g.get i).regIn (g.get i).memIn (g.get i).regOut) ∧
    s'.entry 0 = 0#32 ∧ s'.reg 0 = 0#32 := by
  have silent := fun hne hgm => mem_silent_sound (g.get i) (g.get i).regIn (g.get i).memIn (g.get i).regOut
    s s' hne hgm hwf ihs ihm ihz ihe
  cases hstep with
  | plain rd v hval hrd hp hmem =>
    obtain ⟨hne, hc, hec, _, hgm, wrd, hw, rfl⟩ := plainValue_facts s (g.get i).node rd v hval
    have hov := ovSet_writes (g.get i) (g.get i).regIn wrd hc hec hne hw
    exact ⟨plain_transfer_sound (g.get i) _ _ s s' _ v hval hrd ihz ihe ihs hp,
      silent hne hgm hp.entry hp.addr (fun r hr => hp.frame hrd r (hov ▸ hr)) (fun _ _ _ => by rw [hmem]),
      hp.entry ▸ ihe, hp.zero ▸ ihz⟩
  | quiet hq hgm hreg hentry haddr hslots =>
    exact ⟨quiet_transfer_sound (g.get i) _ _ s s' hq ihe ihs (fun r _ => hreg r) hentry haddr,
      silent (quiet_facts _ hq).1 hgm hentry haddr (fun r _ => hreg r) hslots, hentry ▸ ihe, hreg 0 ▸ ihz⟩
  | storeSp inst rs1 rs2 imm t cur hn hsp hcur hreg hentry haddr hstore =>
    exact ⟨quiet_transfer_sound (g.get i) _ _ s s' (by rw [hn]; rfl) ihe ihs (fun r _ => hreg r) hentry haddr,
      mem_store_sound (g.get i) _ _ _ s s' inst rs1 rs2 imm t cur hn hsp hcur hwf ihs ihm
        ihz ihe hentry haddr hreg hstore, hentry ▸ ihe, hreg 0 ▸ ihz⟩
  | load inst rd rs1 imm t hn hwl hrd hne hbase hl =>
    have hnent : (g.get i).node.isAnyEntry = false := by rw [hn]; rfl
    have hov := ovSet_writes (g.get i) (g.get i).regIn rd (by rw [hn]; rfl) (by rw [hn]; rfl) hnent
      (by rw [hn]; rfl)
    exact ⟨load_transfer_sound (g.get i) _ _ s s' inst rd rs1 imm t hn hwl hrd hne hbase ihz ihe ihs ihm hl,
      silent hnent (by rw [hn]; rfl) hl.entry hl.addr (fun r hr => hl.plain.frame hrd r (hov ▸ hr))
        (fun _ _ _ => by rw [hl.mem]), hl.entry ▸ ihe, hl.zero ▸ ihz⟩

theorem astep_sound (g : Cfg) (i : Nat) (s s' : MState) (hwf : AMap.WF (g.get i).memIn)
    (ihs : Sound s (g.get i).regIn) (ihm : MemSound s (g.get i).memIn) (ihe : s.entry 0 = 0#32)
    (ihz : s.reg 0 = 0#32) (hstep : AStep g i s s') :
    Sound s' (nodeRegOut (g.get i) (g.get i).regIn (g.get i).memIn) ∧
    MemSound s' (nodeMemOut (g.get i) (g.get i).regIn (g.get i).memIn (g.get i).regOut) ∧
    s'.entry 0 = 0#32 ∧ s'.reg 0 = 0#32 := by
  have silent := fun hne hgm => mem_silent_sound (g.get i) (g.get i).regIn (g.get i).memIn (g.get i).regOut
    s s' hne hgm hwf ihs ihm ihz ihe
  cases hstep with
  | mem hm => exact mstep_sound g i s s' hwf ihs ihm ihe ihz hm
  | call inst rd name t hn hrd hc hentry haddr hslots =>
    have hov := mem_ovSet_call (g.get i) (g.get i).regIn inst rd name t hn hrd
    refine ⟨call_transfer_sound (g.get i) _ _ s s' inst rd name t hn hrd ihe ihs
        (fun r h1 h2 _ => hc r h1 h2) hentry haddr,
      silent (by rw [hn]; rfl) (by rw [hn]; rfl) hentry haddr (fun r hr => ?_) hslots,
      hentry ▸ ihe, hc 0 (by decide) (by decide) ▸ ihz⟩
    obtain ⟨h1, h2⟩ := not_or.mp (mt (hov r).mpr (ne_true_of_eq_false hr))
    exact hc r h1 h2
  | ecall hec henv hentry haddr hslots =>
    obtain ⟨hne, _, _, _, _, hgm⟩ := ecall_facts _ hec
    exact ⟨ecall_transfer_sound (g.get i) _ _ s s' hec ihe ihs (fun r h1 _ => henv r h1) hentry haddr,
      silent hne hgm hentry haddr (fun r hr => henv r (mem_ecallKills_of_ovSet (g.get i) _ hec r hr)) hslots,
      hentry ▸ ihe, henv 0 (zero_notin_ecallKills _ _) ▸ ihz⟩
  | entry hen hempty hact hz =>
    refine ⟨entry_transfer_sound (g.get i) _ _ s' hen hempty hact hz, ?_, (hact 0).trans hz, hz⟩
    rw [entry_memOut_nil _ _ _ _ hen]
    exact fun off v hget => nomatch hget

/-- **C01 (`exec_sound_all`).** In a finished run whose facts are a fixed point (`GoodFactsM`,
    decided per program by the model), along every execution — any number of steps, any
    branching, looping, calling — through register-to-register instructions, branches, jumps,
    returns, word stores through a stack pointer at a known position, word loads (destination
    other than the base register, base not claimed to hold a CSR value), calls whose callee
    keeps the contract, environment calls that write only the registers the analysis forgets,
    and entries: every constant / label-address / entry-relative register claim and every
    stack-slot claim attached to the node about to execute is true in the machine state. Assumed
    in the step relation (`AStep`): memory is word-granular, and calls (F-04), environment calls
    and stores through a register other than sp leave the claimed slots alone. -/
theorem exec_sound_all (g : Cfg) (V : List Nat) (hf : GoodFactsM g V) (i0 : Nat) (s0 : MState)
    (h0 : Sound s0 (g.get i0).regIn) (h0m : MemSound s0 (g.get i0).memIn)
    (h0e : s0.entry 0 = 0#32) (h0z : s0.reg 0 = 0#32) (j : Nat) (s' : MState)
    (he : AExec g V i0 s0 j s') :
    Sound s' (g.get j).regIn ∧ MemSound s' (g.get j).memIn ∧ s'.entry 0 = 0#32 ∧ s'.reg 0 = 0#32 := by
  induction he with
  | start => exact ⟨h0, h0m, h0e, h0z⟩
  | step i j s s' _ hstep hi hj hedge ih =>
    obtain ⟨hout, hmout, hent, hzero⟩ := astep_sound g i s s' (hf.wfMemIn i) ih.1 ih.2.1 ih.2.2.1 ih.2.2.2 hstep
    exact ⟨edge_sound g V hf.toGoodFacts i j hi hj hedge s' hout,
      edge_memSound g V hf i j hi hj hedge s' hmout, hent, hzero⟩

theorem MExec.all {g : Cfg} {V : List Nat} {i0 j : Nat} {s0 s' : MState} (he : MExec g V i0 s0 j s') :
    AExec g V i0 s0 j s' := by
  induction he with
  | start => exact .start
  | step i j s s' _ hstep hi hj hedge ih => exact .step i j s s' ih (.mem hstep) hi hj hedge

/-- **C01 (`exec_sound_mem`).** Along every execution through register-to-register
    instructions, branches and jumps, word stores through a stack pointer at a known position
    and word loads (restricted as in `exec_sound_all`): every register claim *and every
    stack-slot claim* attached to the node about to execute is true in the machine state
    (word-granular memory; x0 reads as zero). -/
theorem exec_sound_mem (g : Cfg) (V : List Nat) (hf : GoodFactsM g V) (i0 : Nat) (s0 : MState)
    (h0 : Sound s0 (g.get i0).regIn) (h0m : MemSound s0 (g.get i0).memIn)
    (h0e : s0.entry 0 = 0#32) (h0z : s0.reg 0 = 0#32) (j : Nat) (s' : MState)
    (he : MExec g V i0 s0 j s') :
    Sound s' (g.get j).regIn ∧ MemSound s' (g.get j).memIn ∧ s'.entry 0 = 0#32 ∧ s'.reg 0 = 0#32 :=
  exec_sound_all g V hf i0 s0 h0 h0m h0e h0z j s' he.all

end Rva
