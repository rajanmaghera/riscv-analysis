/-
  C08, pseudo-instructions — the expansion the parser chooses for each pseudo-instruction has the
  meaning the RISC-V assembly manual gives the pseudo-instruction, under RV32IM semantics, for all
  register operands and all machine states:
  * `pseudoRR_meaning`: `mv, neg, not, seqz, snez, sgtz, sltz`;
  * `pseudoBZ_meaning`: `beqz, bnez, bltz, bgtz, bgez, blez`;
  * `pseudoB2_meaning`: `bgt, ble, bgtu, bleu`.
  (The expansion functions are the ones the parser model calls; the model is tied to the real
  parser by the correspondence check.)
-/
import Rva.Proofs.C01Transfer
import Rva.Model.Parser
namespace Rva

def Spec.pseudoRR : String → Word → Option Word
  | "Mv", x => some x
  | "Neg", x => some (0#32 - x)
  | "Not", x => some (~~~x)
  | "Seqz", x => some (if x = 0#32 then 1#32 else 0#32)
  | "Snez", x => some (if x = 0#32 then 0#32 else 1#32)
  | "Sgtz", x => some (if 0 < x.toInt then 1#32 else 0#32)
  | "Sltz", x => some (if x.toInt < 0 then 1#32 else 0#32)
  | _, _ => none

/-- when a base branch instruction is taken (unprivileged ISA manual, 2.5) -/
def Spec.branchTaken : String → Word → Word → Option Bool
  | "Beq", a, b => some (a = b)
  | "Bne", a, b => some (a ≠ b)
  | "Blt", a, b => some (a.toInt < b.toInt)
  | "Bge", a, b => some (a.toInt ≥ b.toInt)
  | "Bltu", a, b => some (a.toNat < b.toNat)
  | "Bgeu", a, b => some (a.toNat ≥ b.toNat)
  | _, _, _ => none

def Spec.pseudoBZ : String → Word → Option Bool
  | "Beqz", x => some (x = 0#32)
  | "Bnez", x => some (x ≠ 0#32)
  | "Bltz", x => some (x.toInt < 0)
  | "Bgtz", x => some (x.toInt > 0)
  | "Bgez", x => some (x.toInt ≥ 0)
  | "Blez", x => some (x.toInt ≤ 0)
  | _, _ => none

def Spec.pseudoB2 : String → Word → Word → Option Bool
  | "Bgt", a, b => some (a.toInt > b.toInt)
  | "Ble", a, b => some (a.toInt ≤ b.toInt)
  | "Bgtu", a, b => some (a.toNat > b.toNat)
  | "Bleu", a, b => some (a.toNat ≤ b.toNat)
  | _, _, _ => none

theorem opOf_facts : Spec.opOf "Addi" = some .add ∧ Spec.opOf "Sub" = some .sub ∧ Spec.opOf "Xori" = some .xor ∧
    Spec.opOf "Sltiu" = some .sltu ∧ Spec.opOf "Sltu" = some .sltu ∧ Spec.opOf "Slt" = some .slt := by
  decide +kernel

/-- **C08 (`pseudoRR_meaning`).** For each of `mv, neg, not, seqz, snez, sgtz, sltz`: the node
    the parser builds writes to `rd` exactly the value the manual assigns to the
    pseudo-instruction, for all registers and states (x0 reads as zero). -/
theorem pseudoRR_meaning (sub : String) (m : FTok) (rd rs : W Reg) (raw : RawTok) (n : Node) (s : MState)
    (w : Word) (hz : s.reg 0 = 0#32) (hn : pseudoRR sub m rd rs raw = some n)
    (hw : Spec.pseudoRR sub (s.reg rs.val) = some w) : plainValue s n = some (rd.val, w) := by
  obtain ⟨h1, h2, h3, h4, h5, h6⟩ := opOf_facts
  unfold pseudoRR at hn
  split at hn <;> cases hn <;> cases hw <;>
    simp only [plainValue, wi, x0, imm0, h1, h2, h3, h4, h5, h6, hz, String.reduceEq, if_false, Option.map_some,
      Option.some.injEq, Prod.mk.injEq, true_and]
  · -- mv = addi rd, rs, 0
    rw [← operate_rv32]; simp [operate]
  · -- neg = sub rd, x0, rs
    rw [← operate_rv32]; rfl
  · -- not = xori rd, rs, -1
    exact BitVec.xor_allOnes
  · -- seqz = sltiu rd, rs, 1
    simp [Spec.rv32, Nat.lt_one_iff, toNat_eq_zero]
  · -- snez = sltu rd, x0, rs
    simp [Spec.rv32, Nat.pos_iff_ne_zero, toNat_eq_zero]
  · -- sgtz = slt rd, x0, rs
    simp [Spec.rv32]
  · -- sltz = slt rd, rs, x0
    simp [Spec.rv32]

theorem toInt_zero32 : (0#32 : BitVec 32).toInt = 0 := by decide
theorem toNat_zero32 : (0#32 : BitVec 32).toNat = 0 := by decide

/-- **C08 (`pseudoBZ_meaning`).** `beqz, bnez, bltz, bgtz, bgez, blez`: the base branch and
    operand order the parser chooses is taken exactly when the manual says the
    pseudo-instruction branches (x0 reads as zero). -/
theorem pseudoBZ_meaning (sub : String) (m : FTok) (r : W Reg) (i : String) (a b : W Reg) (s : MState)
    (t : Bool) (hz : s.reg 0 = 0#32) (hn : pseudoBZ sub m r = some (i, a, b))
    (hw : Spec.pseudoBZ sub (s.reg r.val) = some t) :
    Spec.branchTaken i (s.reg a.val) (s.reg b.val) = some t := by
  unfold pseudoBZ at hn
  -- `cases hw` closes `sgez`, which has no documented meaning: nothing is claimed
  split at hn <;> cases hn <;> cases hw <;> simp [Spec.branchTaken, x0, hz]

/-- **C08 (`pseudoB2_meaning`).** `bgt, ble, bgtu, bleu`: the swapped base branch is taken exactly
    when the manual says. -/
theorem pseudoB2_meaning (sub : String) (x y : W Reg) (i : String) (a b : W Reg) (s : MState) (t : Bool)
    (hn : pseudoB2 sub x y = some (i, a, b))
    (hw : Spec.pseudoB2 sub (s.reg x.val) (s.reg y.val) = some t) :
    Spec.branchTaken i (s.reg a.val) (s.reg b.val) = some t := by
  unfold pseudoB2 at hn
  split at hn <;> cases hn <;> cases hw <;> simp [Spec.branchTaken]

end Rva
