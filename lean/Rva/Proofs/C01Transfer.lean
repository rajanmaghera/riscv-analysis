/-
  C01, second layer — the register transfer function of the value analysis is sound for
  register-to-register instructions, against an RV32IM step written from the manual
  (`plain_transfer_sound`). It is an instance of the frame rule `frame_transfer_sound`, which
  holds at every node that is no entry and reads no memory; the later layers use it for the
  other instruction kinds.
-/
import Rva.Proofs.C01
import Rva.Proofs.Tables
import Rva.Proofs.RegSet
namespace Rva

namespace AMap
variable {κ : Type} [DecidableEq κ]

theorem get_nil (k : κ) : get ([] : AMap κ) k = none := rfl

end AMap

def valHolds (s : MState) (w : Word) : AVal → Prop
  | .const c => w = c
  | .addr l => w = s.addr l
  | .ors r k => w = s.entry r + k
  | .rs r k => w = s.reg r + k
  | _ => True

theorem claim_of_val (s s' : MState) (rd : Reg) (w : Word) (v : AVal) (hz : s.reg 0 = 0#32)
    (hreg : s'.reg rd = w) (hentry : s'.entry = s.entry) (haddr : s'.addr = s.addr)
    (h : valHolds s w v) : claimHolds s' rd v := by
  cases v with
  | const c => exact hreg.trans h
  | addr l => exact hreg.trans (h.trans (by rw [haddr]))
  | ors r k => exact hreg.trans (h.trans (by rw [hentry]))
  | rs r k => intro h0; rw [hreg, show w = s.reg r + k from h, h0, hz]; simp
  | _ => trivial

theorem claim_frame (s s' : MState) (k : Reg) (val : AVal) (hreg : s'.reg k = s.reg k)
    (hentry : s'.entry = s.entry) (haddr : s'.addr = s.addr) (h : claimHolds s k val) :
    claimHolds s' k val := by
  cases val with
  | const c => exact hreg.trans h
  | addr l => exact hreg.trans (h.trans (by rw [haddr]))
  | ors r0 o => exact hreg.trans (h.trans (by rw [hentry]))
  | rs r0 o => exact fun h0 => hreg.trans (h h0)
  | _ => trivial

/-- read off the manual's table (`Spec.mathOps`), independently of the code -/
def Spec.opOf (inst : String) : Option MathOp :=
  (Spec.mathOps.find? (·.1 == inst)).bind fun p => MathOp.ofName p.2

/-- the RV32IM step of a register-to-register instruction: destination and word written
    (for `lui` the node carries the shifted immediate) -/
def plainValue (s : MState) : Node → Option (Reg × Word)
  | .arith i rd rs1 rs2 _ =>
    (Spec.opOf i.val).map fun op => (rd.val, Spec.rv32 op (s.reg rs1.val) (s.reg rs2.val))
  | .iarith i rd rs1 imm _ =>
    if i.val = "Lui" then some (rd.val, imm.val)
    else (Spec.opOf i.val).map fun op => (rd.val, Spec.rv32 op (s.reg rs1.val) imm.val)
  | .loadAddr _ rd name _ => some (rd.val, s.addr name.val)
  | _ => none

structure PlainStep (s s' : MState) (rd : Reg) (v : Word) : Prop where
  wr : rd ≠ 0 → s'.reg rd = v
  keep : ∀ r, r ≠ rd → s'.reg r = s.reg r
  zero : s'.reg 0 = s.reg 0
  entry : s'.entry = s.entry
  addr : s'.addr = s.addr

inductive PlainWrites (s : MState) : Node → Reg → Word → Prop
  | arith {i rd rs1 rs2 t op} : Spec.opOf i.val = some op →
      PlainWrites s (.arith i rd rs1 rs2 t) rd.val (Spec.rv32 op (s.reg rs1.val) (s.reg rs2.val))
  | iarith {i rd rs1 imm t op} : i.val ≠ "Lui" → Spec.opOf i.val = some op →
      PlainWrites s (.iarith i rd rs1 imm t) rd.val (Spec.rv32 op (s.reg rs1.val) imm.val)
  | lui {i rd rs1 imm t} : i.val = "Lui" → PlainWrites s (.iarith i rd rs1 imm t) rd.val imm.val
  | la {i rd name t} : PlainWrites s (.loadAddr i rd name t) rd.val (s.addr name.val)

theorem plainValue_writes {s : MState} {n : Node} {rd : Reg} {v : Word} (h : plainValue s n = some (rd, v)) :
    PlainWrites s n rd v := by
  cases n with
  | arith i wrd rs1 rs2 t =>
    obtain ⟨op, hop, h⟩ := Option.map_eq_some_iff.mp h
    cases h; exact .arith hop
  | iarith i wrd rs1 imm t =>
    simp only [plainValue] at h
    split at h
    · cases h; exact .lui ‹_›
    · obtain ⟨op, hop, h⟩ := Option.map_eq_some_iff.mp h
      cases h; exact .iarith ‹_› hop
  | loadAddr i wrd name t => cases h; exact .la
  | _ => cases h

theorem opRow (tab : List (String × String)) (inst : String) (op : MathOp)
    (h : ((tab.find? (·.1 == inst)).bind fun p => MathOp.ofName p.2) = some op) :
    ∃ p ∈ tab, p.1 = inst ∧ MathOp.ofName p.2 = some op := by
  obtain ⟨p, hf, hop⟩ := Option.bind_eq_some_iff.mp h
  exact ⟨p, List.mem_of_find?_eq_some hf, by simpa using List.find?_some hf, hop⟩

theorem mathOpOf_spec (inst : String) (op : MathOp) (h : Spec.opOf inst = some op) :
    mathOpOf inst = some op := by
  obtain ⟨p, hp, rfl, hop⟩ := opRow _ inst op h
  obtain ⟨q, hq, hq2⟩ := Option.map_eq_some_iff.mp (mathOp_table_correct p hp)
  unfold mathOpOf
  rw [hq]
  exact (congrArg MathOp.ofName hq2).trans hop

theorem scalarOps_rows : ∀ p ∈ Spec.scalarOps,
    (MathOp.ofName p.2 = some .add ∨ MathOp.ofName p.2 = some .sub) ∧
      Spec.opOf p.1 = MathOp.ofName p.2 := by decide +kernel

theorem scalarOpOf_spec (inst : String) (op : MathOp) (h : scalarOpOf inst = some op) :
    (op = .add ∨ op = .sub) ∧ Spec.opOf inst = some op := by
  obtain ⟨p, hp, rfl, hop⟩ := opRow _ inst op h
  have := scalarOps_rows p (scalarOp_table_correct ▸ hp)
  rw [hop] at this
  simpa using this

def foldArms (inst : String) : Option AVal → Option AVal → Option AVal
  | some (.const x), some (.const y) => (mathOpOf inst).map fun op => AVal.const (operate op x y)
  | some (.ors r x), some (.const y) => (scalarOpOf inst).map fun op => AVal.ors r (operate op x y)
  | some (.const x), some (.ors r y) =>
    ((scalarOpOf inst).filter (· == MathOp.add)).map fun op => AVal.ors r (operate op x y)
  | _, _ => none

theorem mathResult_arith (i : W String) (rd rs1 rs2 : W Reg) (t : RawTok) (inn : AMap Reg) :
    mathResult (.arith i rd rs1 rs2 t) inn =
      foldArms i.val (AMap.get inn rs1.val) (AMap.get inn rs2.val) := rfl

theorem mathResult_iarith (i : W String) (rd rs1 : W Reg) (imm : W Word) (t : RawTok) (inn : AMap Reg) :
    mathResult (.iarith i rd rs1 imm t) inn =
      foldArms i.val (AMap.get inn rs1.val) (some (.const imm.val)) := rfl

def OperandIs (s : MState) (w : Word) (o : Option AVal) : Prop :=
  (∀ x, o = some (.const x) → w = x) ∧ ∀ r x, o = some (.ors r x) → w = s.entry r + x

theorem operand_reg (s : MState) (inn : AMap Reg) (hs : Sound s inn) (r : Reg) :
    OperandIs s (s.reg r) (AMap.get inn r) := ⟨fun _ h => hs r _ h, fun _ _ h => hs r _ h⟩

theorem operand_imm (s : MState) (imm : Word) : OperandIs s imm (some (.const imm)) :=
  ⟨fun _ h => by cases h; rfl, fun _ _ h => nomatch h⟩

theorem foldArms_sound (inst : String) (op : MathOp) (hop : Spec.opOf inst = some op) (s : MState)
    (a b : Word) (l r : Option AVal) (ha : OperandIs s a l) (hb : OperandIs s b r) (val : AVal)
    (h : foldArms inst l r = some val) : valHolds s (Spec.rv32 op a b) val := by
  have scalar : ∀ op2, scalarOpOf inst = some op2 → op2 = op ∧ (op = .add ∨ op = .sub) := by
    intro op2 hsc
    obtain ⟨hadd, hsp⟩ := scalarOpOf_spec inst op2 hsc
    obtain rfl := Option.some.inj (hsp.symm.trans hop)
    exact ⟨rfl, hadd⟩
  unfold foldArms at h
  split at h
  · rename_i x y
    rw [mathOpOf_spec inst op hop] at h
    cases h
    show Spec.rv32 op a b = operate op x y
    rw [ha.1 x rfl, hb.1 y rfl, operate_rv32]
  · rename_i e x y
    obtain ⟨op2, hsc, rfl⟩ := Option.map_eq_some_iff.mp h
    obtain ⟨rfl, hadd⟩ := scalar op2 hsc
    show Spec.rv32 op2 a b = s.entry e + operate op2 x y
    rw [ha.2 e x rfl, hb.1 y rfl]; exact rv32_base_left op2 hadd _ _ _
  · rename_i x e y
    obtain ⟨op2, hf, rfl⟩ := Option.map_eq_some_iff.mp h
    obtain ⟨hsc, hadd⟩ := Option.filter_eq_some_iff.mp hf
    obtain rfl : op2 = .add := by simpa using hadd
    obtain ⟨rfl, _⟩ := scalar _ hsc
    show Spec.rv32 .add a b = s.entry e + operate .add x y
    rw [ha.1 x rfl, hb.2 e y rfl]; exact rv32_base_right _ _ _
  · cases h

theorem mathResult_sound (n : Node) (inn : AMap Reg) (s : MState) (rd : Reg) (v : Word) (val : AVal)
    (hs : Sound s inn) (hval : plainValue s n = some (rd, v)) (hres : mathResult n inn = some val) :
    valHolds s v val := by
  cases plainValue_writes hval with
  | arith hop =>
    rw [mathResult_arith] at hres
    exact foldArms_sound _ _ hop s _ _ _ _ (operand_reg s inn hs _) (operand_reg s inn hs _) val hres
  | iarith _ hop =>
    rw [mathResult_iarith] at hres
    exact foldArms_sound _ _ hop s _ _ _ _ (operand_reg s inn hs _) (operand_imm s _) val hres
  | lui hl =>
    have h : mathOpOf "Lui" = none ∧ scalarOpOf "Lui" = none := by decide +kernel
    rw [mathResult_iarith, hl] at hres
    unfold foldArms at hres
    rw [h.1, h.2] at hres
    split at hres <;> cases hres
  | la => cases hres

theorem guard_zero_some (item : Option (Reg × AVal)) (r : Reg) (val : AVal)
    (h : (match item with
      | some (r, v) => if r == 0 then none else some (r, v)
      | none => none) = some (r, val)) : item = some (r, val) ∧ r ≠ 0 := by
  split at h
  · split at h
    · cases h
    · rename_i h0; cases h; exact ⟨rfl, by simpa using h0⟩
  · cases h

/-- the operators of the I-type instructions for which `gen_reg_value` claims the immediate
    (first list) or zero (second list) when the source is x0; the table gives no operator for
    `lui` (`plainValue` treats it on its own) and the RV64 forms -/
theorem genImm_ops :
    (∀ n ∈ ["Addi", "Lui", "Addiw", "Xori", "Ori"], ∀ op ∈ Spec.opOf n, op ∈ [MathOp.add, .xor, .or]) ∧
    (∀ n ∈ ["Andi", "Slli", "Slliw", "Srai", "Sraiw", "Srli", "Srliw"],
      ∀ op ∈ Spec.opOf n, op ∈ [MathOp.and, .sll, .sra, .srl]) := by decide +kernel

theorem operate_zero_id (op : MathOp) (h : op ∈ [MathOp.add, .xor, .or]) (y : Word) :
    operate op 0#32 y = y := by
  simp only [List.mem_cons, List.mem_nil_iff, or_false] at h
  rcases h with rfl | rfl | rfl <;> simp [operate]

theorem operate_zero_shift (op : MathOp) (h : op ∈ [MathOp.and, .sll, .sra, .srl]) (y : Word) :
    operate op 0#32 y = 0#32 := by
  simp only [List.mem_cons, List.mem_nil_iff, or_false] at h
  rcases h with rfl | rfl | rfl | rfl <;> simp [operate, BitVec.sshiftRight_eq_of_msb_false]

/-- what `gen_reg_value` claims of the destination is true: the label's address at `la`, a
    constant only where every register operand is x0 -/
theorem genReg_sound (n : Node) (s : MState) (rd : Reg) (v : Word) (r : Reg) (val : AVal)
    (hz : s.reg 0 = 0#32) (hval : plainValue s n = some (rd, v)) (hgen : n.genRegValue = some (r, val)) :
    r = rd ∧ r ≠ 0 ∧ valHolds s v val ∧ ((∃ c, val = .const c) ∨ ∃ l, val = .addr l) := by
  unfold Node.genRegValue at hgen
  obtain ⟨hi, h0⟩ := guard_zero_some _ r val hgen
  cases plainValue_writes hval with
  | la => cases hi; exact ⟨rfl, h0, rfl, .inr ⟨_, rfl⟩⟩
  | arith hop =>
    obtain ⟨h00, hi⟩ := Option.ite_none_right_eq_some.mp hi
    simp only [Bool.and_eq_true, beq_iff_eq] at h00
    cases hi
    refine ⟨rfl, h0, ?_, .inl ⟨_, rfl⟩⟩
    rw [mathOpOf_spec _ _ hop, h00.1, h00.2, hz, ← operate_rv32]; rfl
  | lui hl =>
    obtain ⟨_, hi⟩ := Option.ite_none_right_eq_some.mp hi
    rw [hl] at hi
    cases hi; exact ⟨rfl, h0, rfl, .inl ⟨_, rfl⟩⟩
  | @iarith i _ rs1 imm _ op _ hop =>
    obtain ⟨hrs, hi⟩ := Option.ite_none_right_eq_some.mp hi
    -- the word written is `operate op 0 imm`; the operator's row of the manual's table says
    -- what that is
    have hw : Spec.rv32 op (s.reg rs1.val) imm.val = operate op 0#32 imm.val := by
      rw [show rs1.val = 0 by simpa using hrs, hz, operate_rv32]
    split at hi
    · rename_i hA
      cases hi
      exact ⟨rfl, h0, hw.trans (operate_zero_id op (genImm_ops.1 _ (List.contains_iff_mem.mp hA) op hop) _),
        .inl ⟨_, rfl⟩⟩
    · obtain ⟨hB, hi⟩ := Option.ite_none_right_eq_some.mp hi
      cases hi
      exact ⟨rfl, h0, hw.trans (operate_zero_shift op (genImm_ops.2 _ (List.contains_iff_mem.mp hB) op hop) _),
        .inl ⟨_, rfl⟩⟩

/-- `Sound` except at x0: the last step of the transfer function erases whatever is claimed
    about x0 -/
def SoundNZ (s : MState) (m : AMap Reg) : Prop :=
  ∀ r v, r ≠ 0 → AMap.get m r = some v → claimHolds s r v

theorem soundNZ_insert (s : MState) (m : AMap Reg) (k : Reg) (v : AVal) (hm : SoundNZ s m)
    (hv : k ≠ 0 → claimHolds s k v) : SoundNZ s (AMap.insert m k v) := by
  intro r val hr0 h
  rw [AMap.get_insert] at h
  split at h
  · rename_i hr; exact hr ▸ Option.some.inj h ▸ hv (hr ▸ hr0)
  · exact hm r val hr0 h

theorem sound_of_soundNZ_erase (s : MState) (m : AMap Reg) (hm : SoundNZ s m) : Sound s (AMap.erase m 0) := by
  intro r val h
  rw [AMap.get_erase] at h
  split at h
  · cases h
  · rename_i hr; exact hm r val hr h

/-- `rule_zero_to_const` only ever replaces a description relative to x0 that is still in the
    outs by the constant: whatever such a replacement preserves, the rule preserves -/
theorem zeroConsts_induct {κ : Type} [DecidableEq κ] (Q : AMap κ → Prop) (out inn : AMap κ) (h : Q out)
    (hstep : ∀ acc k i, Q acc → AMap.get acc k = some (.ors 0 i) ∨ AMap.get acc k = some (.rs 0 i) →
      Q (AMap.insert acc k (.const i))) : Q (zeroConsts out inn) := by
  unfold zeroConsts
  refine List.foldlRecOn inn zeroStep h fun acc ha p _ => ?_
  unfold zeroStep
  split
  · rename_i r i heq
    split
    · rename_i hc
      simp only [Bool.and_eq_true, beq_iff_eq] at hc
      exact hstep acc p.1 i ha (Or.inl (by rw [hc.2, heq, hc.1]))
    · exact ha
  · rename_i r i heq
    split
    · rename_i hc
      simp only [Bool.and_eq_true, beq_iff_eq] at hc
      exact hstep acc p.1 i ha (Or.inr (by rw [hc.2, heq, hc.1]))
    · exact ha
  · exact ha

theorem zeroConsts_sound (s : MState) (out inn : AMap Reg) (he0 : s.entry 0 = 0#32) (h : SoundNZ s out) :
    SoundNZ s (zeroConsts out inn) := by
  refine zeroConsts_induct (SoundNZ s) out inn h fun acc k i hacc hk => ?_
  refine soundNZ_insert s acc k _ hacc fun hk0 => ?_
  rcases hk with hk | hk
  · exact (hacc k _ hk0 hk).trans (by rw [he0]; simp)
  · exact hacc k _ hk0 hk rfl

theorem performMath_sound (s : MState) (n : Node) (out inn : AMap Reg) (h : SoundNZ s out)
    (hm : ∀ rd v, n.writesTo = some rd → rd.val ≠ 0 → mathResult n inn = some v → claimHolds s rd.val v) :
    SoundNZ s (rulePerformMathOps n out inn) := by
  unfold rulePerformMathOps
  cases hw : n.writesTo with
  | none => exact h
  | some rd =>
    cases hr : mathResult n inn with
    | none => exact h
    | some v => exact soundNZ_insert s out rd.val v h (fun h0 => hm rd v hw h0 hr)

theorem get_pullCsr_ne (out : AMap Reg) (memIn : AMap MemLoc) (rd k : Reg) (hk : k ≠ rd) :
    AMap.get (pullCsrValue out memIn rd) k = AMap.get out k := by
  unfold pullCsrValue
  split
  · split
    · rw [AMap.get_insert, if_neg hk]
    · rfl
  · rfl

theorem get_pullStack_ne (out : AMap Reg) (memIn : AMap MemLoc) (rd k : Reg) (hk : k ≠ rd) :
    AMap.get (pullStackValue out memIn rd) k = AMap.get out k := by
  unfold pullStackValue
  split
  · split
    · split
      · rw [AMap.get_insert, if_neg hk]
      · rfl
    · rfl
  · rfl

theorem valueFromStack_sound (s : MState) (n : Node) (out : AMap Reg) (memIn : AMap MemLoc)
    (h : SoundNZ s out)
    (hdest : ∀ rd x, n.writesTo = some rd → rd.val ≠ 0 → AMap.get out rd.val = some x →
      (∀ c, x ≠ .vcsr c) ∧
      ∀ o v, x = .omr 2 o → AMap.get memIn (.stack o) = some v → claimHolds s rd.val v) :
    SoundNZ s (ruleValueFromStack n out memIn) := by
  unfold ruleValueFromStack
  cases hw : n.writesTo with
  | none => exact h
  | some wrd =>
    by_cases h0 : wrd.val = 0
    · intro r v hr0 hget
      have hne : r ≠ wrd.val := h0 ▸ hr0
      rw [get_pullStack_ne _ _ _ _ hne, get_pullCsr_ne _ _ _ _ hne] at hget
      exact h r v hr0 hget
    · have h1 : pullCsrValue out memIn wrd.val = out := by
        unfold pullCsrValue
        split
        · rename_i c heq
          exact absurd rfl ((hdest wrd _ hw h0 heq).1 c)
        · rfl
      show SoundNZ s (pullStackValue (pullCsrValue out memIn wrd.val) memIn wrd.val)
      rw [h1]
      unfold pullStackValue
      split
      · rename_i psp o heq
        split
        · rename_i hpsp
          obtain rfl : psp = 2 := by simpa using hpsp
          split
          · rename_i v hv
            exact soundNZ_insert s out _ v h fun _ => (hdest wrd _ hw h0 heq).2 o v rfl hv
          · exact h
        · exact h
      · exact h

def Node.noMemRead (n : Node) : Prop :=
  n.readsFromMemory = none ∧ ∀ out inn, ruleExpandAddressForLoad n out inn = out

/-- the rules that follow the address rule, in the order of the code. `r1` is what the address
    rule has left: its input in `rules_sound`, something else only at a load
    (`load_transfer_sound`) -/
theorem rulesFrom_sound (cn : CNode) (inReg : AMap Reg) (inMem : AMap MemLoc) (s' : MState) (r1 : AMap Reg)
    (hr1 : ruleExpandAddressForLoad cn.node (preRules cn inReg) inReg = r1)
    (he0 : s'.entry 0 = 0#32) (h1 : SoundNZ s' r1)
    (hdest : ∀ rd x, cn.node.writesTo = some rd → rd.val ≠ 0 → AMap.get r1 rd.val = some x →
      (∀ c, x ≠ .vcsr c) ∧
      ∀ o v, x = .omr 2 o → AMap.get inMem (.stack o) = some v → claimHolds s' rd.val v)
    (hpull : rulePullValueFromCsrMemory cn.node (ruleValueFromStack cn.node r1 inMem) cn.memOut =
      ruleValueFromStack cn.node r1 inMem)
    (hmath : ∀ rd v, cn.node.writesTo = some rd → rd.val ≠ 0 → mathResult cn.node inReg = some v →
      claimHolds s' rd.val v) :
    Sound s' (nodeRegOut cn inReg inMem) := by
  unfold nodeRegOut
  simp only []
  rw [hr1, hpull]
  exact sound_of_soundNZ_erase s' _ (performMath_sound s' cn.node _ inReg
    (zeroConsts_sound s' _ inReg he0 (valueFromStack_sound s' cn.node r1 inMem h1 hdest)) hmath)

/-- At a node that reads no memory: if the map before the estimation rules is sound (except at
    x0) in the state after the instruction, the stack rule finds nothing to replace at a
    destination other than x0, and the folded claim (if any) is true, then the out-map is sound. -/
theorem rules_sound (cn : CNode) (inReg : AMap Reg) (inMem : AMap MemLoc) (s' : MState)
    (hnm : cn.node.noMemRead) (he0 : s'.entry 0 = 0#32)
    (hpre : SoundNZ s' (preRules cn inReg))
    (hvfs : ∀ rd x, cn.node.writesTo = some rd → rd.val ≠ 0 →
      AMap.get (preRules cn inReg) rd.val = some x → (∀ c, x ≠ .vcsr c) ∧ (∀ r o, x ≠ .omr r o))
    (hmath : ∀ rd v, cn.node.writesTo = some rd → rd.val ≠ 0 → mathResult cn.node inReg = some v →
      claimHolds s' rd.val v) :
    Sound s' (nodeRegOut cn inReg inMem) :=
  rulesFrom_sound cn inReg inMem s' _ (hnm.2 _ _) he0 hpre
    (fun rd x hw h0 hx => ⟨(hvfs rd x hw h0 hx).1, fun o _ e => absurd e ((hvfs rd x hw h0 hx).2 2 o)⟩)
    (by unfold rulePullValueFromCsrMemory; rw [hnm.1]) hmath

/-
  The frame rule. `ovSet` (written for `rule_forget_overwritten_registers`) is also exactly what
  the register transfer erases before it adds the generated value. So one statement covers every
  instruction kind: claims about registers outside `ovSet` survive if the step leaves those
  registers alone.
-/

theorem entry_flags (n : Node) (h : n.isAnyEntry = false) :
    n.isFunctionEntry = false ∧ n.isHandlerFunctionEntry = false ∧ n.isProgramEntry = false := by
  cases n <;> simp [Node.isAnyEntry] at h <;> exact ⟨rfl, rfl, rfl⟩

theorem get_insertGen (m : AMap Reg) (g : Option (Reg × AVal)) (k : Reg) (v : AVal)
    (h : AMap.get (insertGen m g) k = some v) : g = some (k, v) ∨ AMap.get m k = some v := by
  cases g with
  | none => exact Or.inr h
  | some p =>
    obtain ⟨r, gv⟩ := p
    simp only [insertGen, AMap.get_insert] at h
    split at h
    · rename_i hk; exact Or.inl (by rw [hk, Option.some.inj h])
    · exact Or.inr h

def Without (m' m : AMap Reg) (S : RegSet) : Prop :=
  ∀ k, AMap.get m' k = if RegSet.mem S k = true then none else AMap.get m k

theorem without_toList (m : AMap Reg) (S : RegSet) : Without ((RegSet.toList S).foldl AMap.erase m) m S :=
  fun k => by simp only [AMap.get_foldl_erase, RegSet.mem_toList]

theorem Without.erase {m' m : AMap Reg} {S : RegSet} (h : Without m' m S) (T : RegSet) :
    Without ((RegSet.toList T).foldl AMap.erase m') m (S ||| T) := fun k => by
  rw [without_toList m' T k, h k, RegSet.mem_or]
  cases RegSet.mem S k <;> cases RegSet.mem T k <;> rfl

theorem Without.ite {m' m : AMap Reg} {S : RegSet} (h : Without m' m S) (c : Bool) (T : RegSet) :
    Without (if c then (RegSet.toList T).foldl AMap.erase m' else m') m (if c then S ||| T else S) := by
  cases c
  · exact h
  · exact h.erase T

theorem Without.get {m' m : AMap Reg} {S : RegSet} (h : Without m' m S) {k : Reg} {v : AVal}
    (hk : AMap.get m' k = some v) : AMap.get m k = some v ∧ RegSet.mem S k = false := by
  rw [h k] at hk
  split at hk
  · cases hk
  · exact ⟨hk, Bool.eq_false_iff.mpr ‹_›⟩

/-- a0 and a1, forgotten at an `ecall` without signature: a list in `preRules`, a set in `ovSet` -/
theorem toList_a0a1 : RegSet.toList (RegSet.ofList [10, 11]) = [10, 11] := by decide +kernel

/-- what `preRules` leaves at a node that is no entry: the generated claim, and the claims of the
    in-map about registers outside `ovSet` -/
theorem get_preRules (cn : CNode) (inReg : AMap Reg) (hne : cn.node.isAnyEntry = false) (k : Reg) (v : AVal)
    (h : AMap.get (preRules cn inReg) k = some v) :
    cn.node.genRegValue = some (k, v) ∨
      AMap.get inReg k = some v ∧ RegSet.mem (ovSet { cn with regIn := inReg }) k = false := by
  obtain ⟨hfe, hhe, hpe⟩ := entry_flags cn.node hne
  unfold preRules at h
  simp only [hfe, hhe, hpe, Bool.false_eq_true, if_false] at h
  refine (get_insertGen _ _ k v h).imp_right (Without.get ?_)
  have h1 := (without_toList inReg cn.node.killReg).ite cn.node.callsTo.isSome returnAddrSet
  unfold ovSet
  cases ecallSignature { cn with regIn := inReg } with
  | some p => exact h1.erase p.2
  | none => exact toList_a0a1 ▸ h1.ite cn.node.isEcall (RegSet.ofList [10, 11])

theorem frame_transfer_sound (cn : CNode) (inReg : AMap Reg) (inMem : AMap MemLoc) (s s' : MState)
    (hne : cn.node.isAnyEntry = false) (hnm : cn.node.noMemRead) (he0 : s.entry 0 = 0#32)
    (hs : Sound s inReg)
    (hov : ∀ r, r ≠ 0 → RegSet.mem (ovSet { cn with regIn := inReg }) r = false → s'.reg r = s.reg r)
    (hentry : s'.entry = s.entry) (haddr : s'.addr = s.addr)
    (hdest : ∀ rd, cn.node.writesTo = some rd → rd.val ≠ 0 →
      RegSet.mem (ovSet { cn with regIn := inReg }) rd.val = true)
    (hgen : ∀ r v, cn.node.genRegValue = some (r, v) →
      claimHolds s' r v ∧ (∀ c, v ≠ .vcsr c) ∧ ∀ r o, v ≠ .omr r o)
    (hmath : ∀ rd v, cn.node.writesTo = some rd → rd.val ≠ 0 → mathResult cn.node inReg = some v →
      claimHolds s' rd.val v) :
    Sound s' (nodeRegOut cn inReg inMem) := by
  refine rules_sound cn inReg inMem s' hnm (hentry ▸ he0) ?_ ?_ hmath
  · intro k val hk0 hget
    rcases get_preRules cn inReg hne k val hget with hg | ⟨hin, hk⟩
    · exact (hgen k val hg).1
    · exact claim_frame s s' k val (hov k hk0 hk) hentry haddr (hs k val hin)
  · -- the destination is overwritten: what the stack rule finds there is the generated claim
    intro rd x hw hrd0 hx
    rcases get_preRules cn inReg hne rd.val x hx with hg | ⟨_, hk⟩
    · exact (hgen _ x hg).2
    · rw [hdest rd hw hrd0] at hk; cases hk

theorem mem_constZero (k : Reg) : RegSet.mem constZeroSet k = decide (k = 0) := by
  have : constZeroSet = 1#32 := by decide
  simp [this, RegSet.mem, BitVec.getLsbD_one]

def plainKill (rd : Reg) : RegSet := RegSet.diff (RegSet.single rd) constZeroSet

theorem mem_plainKill (rd k : Reg) (hrd : rd < 32) :
    RegSet.mem (plainKill rd) k = true ↔ k = rd ∧ rd ≠ 0 := by
  rw [plainKill, RegSet.mem_diff, RegSet.mem_single rd k (.inl hrd), mem_constZero]
  by_cases h : k = rd <;> simp [h]

theorem ecallSignature_none (cn : CNode) (he : cn.node.isEcall = false) : ecallSignature cn = none := by
  simp [ecallSignature, knownEcall, he]

theorem ovSet_plain (cn : CNode) (inReg : AMap Reg) (hc : cn.node.callsTo = none)
    (he : cn.node.isEcall = false) : ovSet { cn with regIn := inReg } = cn.node.killReg := by
  simp [ovSet, hc, he, ecallSignature_none { cn with regIn := inReg } he]

theorem ovSet_writes (cn : CNode) (inReg : AMap Reg) (rd : W Reg) (hc : cn.node.callsTo = none)
    (he : cn.node.isEcall = false) (hne : cn.node.isAnyEntry = false) (hw : cn.node.writesTo = some rd) :
    ovSet { cn with regIn := inReg } = plainKill rd.val := by
  rw [ovSet_plain cn inReg hc he]
  simp [Node.killReg, plainKill, hc, (entry_flags _ hne).1, hw]

theorem PlainStep.frame {s s' : MState} {rd : Reg} {v : Word} (hp : PlainStep s s' rd v) (hrd : rd < 32)
    (r : Reg) (h : RegSet.mem (plainKill rd) r = false) : s'.reg r = s.reg r := by
  by_cases hr : r = rd
  · by_cases h0 : r = 0
    · exact h0 ▸ hp.zero
    · rw [(mem_plainKill rd r hrd).mpr ⟨hr, hr ▸ h0⟩] at h; cases h
  · exact hp.keep r hr

theorem plainValue_facts (s : MState) (n : Node) (rd : Reg) (v : Word) (h : plainValue s n = some (rd, v)) :
    n.isAnyEntry = false ∧ n.callsTo = none ∧ n.isEcall = false ∧ n.noMemRead ∧
      n.genMemoryValue = none ∧ ∃ wrd, n.writesTo = some wrd ∧ wrd.val = rd := by
  cases plainValue_writes h <;> exact ⟨rfl, rfl, rfl, ⟨rfl, fun _ _ => rfl⟩, rfl, _, rfl, rfl⟩

/-- **C01 (`plain_transfer_sound`).** The register transfer function of the value analysis is
    sound on every register-to-register instruction (all RV32IM computational instructions in
    R and I form, `lui`, `la`): if every claim of the in-map is true before the instruction,
    every claim of the out-map the analysis computes for the node is true after it — for all
    operand registers (including x0 as source or destination), all immediates, all machine
    states, whatever the node's memory facts are. -/
theorem plain_transfer_sound (cn : CNode) (inReg : AMap Reg) (inMem : AMap MemLoc) (s s' : MState)
    (rd : Reg) (v : Word)
    (hval : plainValue s cn.node = some (rd, v)) (hrd : rd < 32) (hz : s.reg 0 = 0#32)
    (he0 : s.entry 0 = 0#32) (hs : Sound s inReg)
    (hstep : PlainStep s s' rd v) : Sound s' (nodeRegOut cn inReg inMem) := by
  obtain ⟨hne, hc, hec, hnm, _, wrd, hw, rfl⟩ := plainValue_facts s cn.node rd v hval
  have hov := ovSet_writes cn inReg wrd hc hec hne hw
  have claim : ∀ val, wrd.val ≠ 0 → valHolds s v val → claimHolds s' wrd.val val := fun val h0 =>
    claim_of_val s s' wrd.val v val hz (hstep.wr h0) hstep.entry hstep.addr
  refine frame_transfer_sound cn inReg inMem s s' hne hnm he0 hs
    (fun r _ hr => hstep.frame hrd r (hov ▸ hr)) hstep.entry hstep.addr ?_ ?_ ?_
  · intro rd' hw' h0
    obtain rfl := Option.some.inj (hw.symm.trans hw')
    rw [hov]; exact (mem_plainKill _ _ hrd).mpr ⟨rfl, h0⟩
  · intro r gv hg
    obtain ⟨rfl, h0, hv, hk⟩ := genReg_sound cn.node s wrd.val v r gv hz hval hg
    refine ⟨claim gv h0 hv, ?_⟩
    rcases hk with ⟨c, rfl⟩ | ⟨l, rfl⟩ <;> exact ⟨fun _ => nofun, fun _ _ => nofun⟩
  · intro rd' mv hw' h0 hm
    obtain rfl := Option.some.inj (hw.symm.trans hw')
    exact claim mv h0 (mathResult_sound cn.node inReg s wrd.val v mv hs hval hm)

/-- non-vacuity of `plain_transfer_sound`: `addi sp, sp, -16` with sp known to be the entry
    value; the out-map then claims `sp = entry sp - 16` -/
example : ∃ (cn : CNode) (inReg : AMap Reg) (s s' : MState) (rd : Reg) (v : Word),
    plainValue s cn.node = some (rd, v) ∧ rd < 32 ∧ s.reg 0 = 0#32 ∧ s.entry 0 = 0#32 ∧
    Sound s inReg ∧ PlainStep s s' rd v ∧
    AMap.get (nodeRegOut cn inReg []) 2 = some (.ors 2 (-16#32)) := by
  let w : FTok := FTok.default
  let n : Node := .iarith ⟨"Addi", w⟩ ⟨2, w⟩ ⟨2, w⟩ ⟨-16#32, w⟩ RawTok.default
  let cn : CNode := { node := n, labels := [], isText := true }
  let s : MState := { reg := fun r => if r = 2 then 100#32 else 0#32,
                      entry := fun r => if r = 2 then 100#32 else 0#32, addr := fun _ => 0#32 }
  let s' : MState := { s with reg := fun r => if r = 2 then 84#32 else 0#32 }
  refine ⟨cn, [(2, .ors 2 0#32)], s, s', 2, 84#32, ?_, by decide, rfl, rfl, ?_, ?_, by decide⟩
  · have : Spec.opOf "Addi" = some .add := by decide
    simp only [plainValue, cn, n, this]
    decide
  · intro r val h
    cases List.mem_singleton.mp (AMap.mem_of_get _ r val h)
    show s.reg 2 = s.entry 2 + 0#32
    decide
  · exact ⟨fun _ => rfl, fun r hr => by simp [s, s', hr], rfl, rfl, rfl⟩

end Rva
