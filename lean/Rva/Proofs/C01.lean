/-
  C01 — claimed values are true (first layer of the soundness argument).

  Concretisation `claimHolds`: `Constant c` ↦ the register equals c; `Address l` ↦ it equals the
  label's address; `OriginalRegisterWithScalar r k` ↦ it equals the value `r` had at entry to the
  enclosing function plus k. Here: the meet at a join is sound in every state in which the
  out-map of the predecessor actually taken is sound, kills only remove claims, and the word
  arithmetic behind `rule_perform_math_ops` (`sub_swapped_counterexample`: why its arm with the
  constant on the left takes addition only).
-/
import Rva.Proofs.C08
import Rva.Proofs.AMap
namespace Rva

namespace AMap
variable {κ : Type} [DecidableEq κ]

theorem get_filter (m : AMap κ) (p : κ × AVal → Bool) (k : κ) (v : AVal)
    (h : get (m.filter p) k = some v) : ∃ v', get m k = some v' :=
  exists_get_of_mem m k v (List.mem_filter.mp (mem_of_get _ k v h)).1

end AMap

/-- a machine state as far as register claims are concerned: current registers, the registers at
    entry to the enclosing function, the address of each label -/
structure MState where
  reg : Reg → Word
  entry : Reg → Word
  addr : String → Word
  /-- memory, one word per address (word-granular: the memory layer of the proof speaks about
      aligned `lw`/`sw` only) -/
  mem : Word → Word := fun _ => 0#32

/-- the concrete meaning of the three claim kinds the property speaks about -/
def claimHolds (s : MState) (r : Reg) : AVal → Prop
  | .const c => s.reg r = c
  | .addr l => s.reg r = s.addr l
  | .ors r0 k => s.reg r = s.entry r0 + k
  -- "current value of register r0 plus k": only ever consumed for r0 = x0 (zero-to-const rule)
  | .rs r0 k => r0 = 0 → s.reg r = k
  | _ => True

def Sound (s : MState) (m : AMap Reg) : Prop := ∀ r v, AMap.get m r = some v → claimHolds s r v

/-- **C01 (`meetOver_sound`).** `in[n]` is the meet of the outs of the (visited) predecessors; if the out
    of *one* of them — the predecessor the execution actually came from — is sound in the
    current state, so is the meet. -/
theorem meetOver_sound (s : MState) (l : List (AMap Reg)) (hw : ∀ m ∈ l, AMap.WF m) (o : AMap Reg)
    (ho : o ∈ l) (hs : Sound s o) : Sound s (meetOver l) :=
  fun r v h => hs r v (AMap.get_meetOver l hw o ho r v h)

theorem erase_sound (s : MState) (m : AMap Reg) (hw : AMap.WF m) (k : Reg) (hs : Sound s m) :
    Sound s (AMap.erase m k) :=
  fun r v h => hs r v (AMap.get_filter_wf m _ r v hw h).1

/-- `add` and `sub` are the two operators `scalar_op` yields -/
theorem rv32_base_left (op : MathOp) (hop : op = .add ∨ op = .sub) (e k y : Word) :
    Spec.rv32 op (e + k) y = e + operate op k y := by
  rw [← operate_rv32]
  rcases hop with rfl | rfl
  · exact BitVec.add_assoc _ _ _
  · simp only [operate]; rw [BitVec.sub_eq_add_neg, BitVec.sub_eq_add_neg, BitVec.add_assoc]

theorem rv32_base_right (x e k : Word) : Spec.rv32 .add x (e + k) = e + operate .add x k := by
  rw [← operate_rv32]; simp only [operate]
  rw [← BitVec.add_assoc, BitVec.add_comm x, BitVec.add_assoc]

/-- Why the constant-on-the-left arm of `rule_perform_math_ops` filters for `Add` (F-27): folding
    `c - (entry r + y)` as `entry r + (c - y)` is wrong. -/
theorem sub_swapped_counterexample :
    ∃ (e c y : Word), c - (e + y) ≠ e + (c - y) := ⟨1#32, 0#32, 0#32, by decide⟩

end Rva
