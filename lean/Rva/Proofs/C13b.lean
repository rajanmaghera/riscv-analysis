/-
  C13 — blank lines and comments are invisible to the parse loop.

  A newline token or a comment token in front of the remaining items of a file is consumed by one
  step of the parse loop that records nothing; so any number of added blank lines and comment
  lines between statements leaves the parsed nodes and the reported errors as they were.
-/
import Rva.Proofs.ParserInv
namespace Rva

def Blank (it : PItem) : Prop := ∃ t, it = .tok t ∧ (t.kind = .newline ∨ t.kind = .comment)

theorem blank_item_invisible (fuel : Nat) (it : PItem) (hb : Blank it) (top : List PItem)
    (below : List (List PItem)) (r : Reader) (nodes : List Node) (errs : List ParseErr) :
    parseLoop (fuel + 1) ((it :: top) :: below) r nodes errs = parseLoop fuel (top :: below) r nodes errs := by
  obtain ⟨t, rfl, h | h⟩ := hb
  · rw [parseLoop, parseStep_newline t top h]
  · rw [parseLoop, parseStep_comment t top h]

/-- **C13 (`blank_lines_invisible`).** Any run of newline and comment tokens in front of the rest
    of a file - added blank lines, added comment lines - is consumed without a trace: the nodes
    and errors the loop goes on to produce are those of the file without them. -/
theorem blank_lines_invisible (pre : List PItem) (hb : ∀ it ∈ pre, Blank it) (fuel : Nat) (top : List PItem)
    (below : List (List PItem)) (r : Reader) (nodes : List Node) (errs : List ParseErr) :
    parseLoop (fuel + pre.length) ((pre ++ top) :: below) r nodes errs =
      parseLoop fuel (top :: below) r nodes errs := by
  induction pre with
  | nil => rfl
  | cons it pre ih =>
    exact (blank_item_invisible (fuel + pre.length) it (hb it List.mem_cons_self) ..).trans
      (ih fun x hx => hb x (List.mem_cons_of_mem _ hx))

/-- **C13 (`label_own_line`).** A label written on its own line (label token, newline or comment
    tokens, then the statement) is parsed exactly like the label written in front of its
    statement. -/
theorem label_own_line (t : FTok) (l : String) (h : t.kind = .label) (hl : labelFromStr t.payload = some l)
    (pre : List PItem) (hb : ∀ it ∈ pre, Blank it) (fuel : Nat) (top : List PItem)
    (below : List (List PItem)) (r : Reader) (nodes : List Node) (errs : List ParseErr) :
    parseLoop (fuel + pre.length + 1) ((.tok t :: (pre ++ top)) :: below) r nodes errs =
      parseLoop (fuel + 1) ((.tok t :: top) :: below) r nodes errs := by
  rw [parseLoop, parseStep_label t l _ h hl, parseLoop, parseStep_label t l _ h hl]
  simp only [Node.includePath]
  exact blank_lines_invisible pre hb fuel top below r _ errs

end Rva
