/-
  C06 ("terminates without crashing"), the part about error recovery: it never lengthens the
  remaining input. The other theorems that stand for C06 are with their subjects: lexer progress in
  LexTotal, constant folding in C08, literals in C17, the parse loop in C06b. Rust stack depth,
  allocator behaviour and wall-clock time cannot be exhibited by the model; they are observed on the
  real binaries by the check (watchdog, both build profiles, size doubling).
-/
import Rva.Proofs.C07
namespace Rva

theorem recover_shorter (l : List PItem) : (recover l).length ≤ l.length :=
  (recover_isSuffix l).length_le

end Rva
