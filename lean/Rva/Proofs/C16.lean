/-
  C16 — analysis failures are explained. Graph construction fails in exactly two ways
  (`buildCfg_total`): with `LabelsNotDefined` carrying exactly the names that are used (called,
  jumped to, or loaded) and have no definition, each with the token of one of its uses
  (`undefined_label_reported`); or, at the first label definition that repeats a name, with
  `DuplicateLabel` carrying that definition's token (`buildLoop_spec`). The diagnostic built from
  either is located on the token of such a label, a real file and range; only `UnexpectedError` is
  attached to no file (`cfgErrDiag_located`).
-/
import Rva.Model.Pipeline
import Rva.Proofs.FirstLabel
import Rva.Proofs.Build
namespace Rva

theorem addName_mem (s : List (W String)) (w : W String) (n : String) :
    nameIn (addName s w) n = (nameIn s n || w.val == n) := by
  unfold addName
  split
  · rename_i h
    cases hn : w.val == n
    · simp
    · rw [← eq_of_beq hn, h]; rfl
  · simp [nameIn, List.any_append]

/-- **C16.** Undefined labels stop graph construction with an error that lists exactly the
    used-but-undefined names (with the token of a use). -/
theorem undefined_label_reported (nodes : List Node) (p : Option (List (W String)))
    (h : undefinedNames nodes p ≠ []) :
    buildCfg nodes p = .error (.labelsNotDefined (undefinedNames nodes p)) := by
  unfold buildCfg
  cases hu : undefinedNames nodes p with
  | nil => exact absurd hu h
  | cons x xs => simp

/-- every name reported as undefined is used somewhere and defined nowhere -/
theorem undefined_names_spec (nodes : List Node) (p : Option (List (W String))) (w : W String)
    (h : w ∈ undefinedNames nodes p) :
    w ∈ usedNames nodes p ∧ nameIn (labelNames nodes) w.val = false := by
  unfold undefinedNames at h
  have := List.mem_filter.mp h
  exact ⟨this.1, by simpa using this.2⟩

/-- …and when every used name is defined, construction does not fail with that error -/
theorem no_undefined_no_error (nodes : List Node) (p : Option (List (W String)))
    (h : undefinedNames nodes p = []) : buildCfg nodes p = buildNodes nodes p := by
  unfold buildCfg; simp [h]

/-- The diagnostic for an undefined or duplicate label is located on that label's token; with
    several undefined labels, on the one written first (no other comes before it by offsets, the
    name deciding only between equal offsets in different files); that this is a function of the set
    of labels and not of the names is `firstLabel_order_free`, `firstLabel_renaming`. -/
theorem cfgErrDiag_located :
    (∀ (l : W String), (cfgErrDiag (.duplicateLabel l)).file = l.tok.file ∧
        (cfgErrDiag (.duplicateLabel l)).range = l.tok.range ∧
        (cfgErrDiag (.duplicateLabel l)).title = s!"Duplicate label: {l.val}") ∧
    (∀ (ls : List (W String)), ls ≠ [] → ∃ m ∈ ls, (∀ x ∈ ls, labelBefore x m = false) ∧
        (cfgErrDiag (.labelsNotDefined ls)).file = m.tok.file ∧
        (cfgErrDiag (.labelsNotDefined ls)).range = m.tok.range) ∧
    (cfgErrDiag .unexpectedError).file = nilFile := by
  refine ⟨fun l => ⟨rfl, rfl, rfl⟩, ?_, rfl⟩
  intro ls hne
  obtain ⟨m, hm, hmem, hmin⟩ := firstLabel_spec ls hne
  refine ⟨m, hmem, hmin, ?_, ?_⟩ <;> simp [cfgErrDiag, hm]

def labelDefs (nodes : List Node) : List (W String) :=
  nodes.filterMap fun n => match n with
    | .label w _ => some w
    | _ => none

/-- **C16 (`buildLoop_spec`).** The scan over the source stops at the first label definition
    whose name was already defined — with `DuplicateLabel` carrying the token of that second
    definition — and if no name is defined twice it does not fail. -/
theorem buildLoop_spec (calls : List (W String)) (p : Option (List (W String))) (nodes : List Node) :
    ∀ st : BuildSt,
      (∃ st', buildLoop calls p nodes st = .ok st' ∧
        (∀ w ∈ labelDefs nodes, w.val ∉ st.all) ∧ ((labelDefs nodes).map (·.val)).Nodup) ∨
      (∃ w pre post, buildLoop calls p nodes st = .error (.duplicateLabel w) ∧
        labelDefs nodes = pre ++ w :: post ∧ (w.val ∈ st.all ∨ w.val ∈ pre.map (·.val))) := by
  induction nodes with
  | nil => exact fun st => .inl ⟨st, rfl, by simp [labelDefs], by simp [labelDefs]⟩
  | cons n rest ih =>
    intro st
    rcases buildStep_spec calls p st n with ⟨w, t, rfl, hs⟩ | ⟨hn, st', _, hs1, hs2, _⟩
    · have hdefs : labelDefs (Node.label w t :: rest) = w :: labelDefs rest := rfl
      rw [hdefs]
      by_cases hmem : w.val ∈ st.all
      · exact .inr ⟨w, [], _, by simp [buildLoop, hs, hmem], rfl, .inl hmem⟩
      · have hstep : buildLoop calls p (Node.label w t :: rest) st =
            buildLoop calls p rest { st with cur := st.cur ++ [w], all := w.val :: st.all } := by
          simp [buildLoop, hs, hmem]
        rw [hstep]
        rcases ih { st with cur := st.cur ++ [w], all := w.val :: st.all } with
          ⟨st', e, h1, h2⟩ | ⟨w2, pre, post, e1, e2, e3⟩
        · simp only [List.mem_cons, not_or] at h1
          refine .inl ⟨st', e, ?_, ?_⟩
          · simpa [hmem] using fun x hx => (h1 x hx).2
          · simpa [h2] using fun x hx e => (h1 x hx).1 e
        · refine .inr ⟨w2, w :: pre, post, e1, by rw [e2]; rfl, ?_⟩
          simp only [List.mem_cons, List.map_cons] at e3 ⊢
          exact or_left_comm.mp (or_assoc.mp e3)
    · have hdefs : labelDefs (n :: rest) = labelDefs rest := by
        cases n <;> first | rfl | exact absurd rfl (hn _ _)
      simp only [buildLoop, hs1, hdefs, ← hs2]
      exact ih st'

/-- **C16 (`duplicate_label_reported`).** A program in which some label name is defined twice is
    refused with `DuplicateLabel` carrying the token of a definition that repeats an earlier
    one. -/
theorem duplicate_label_reported (nodes : List Node) (p : Option (List (W String)))
    (h : ¬ ((labelDefs nodes).map (·.val)).Nodup) :
    ∃ w pre post, buildNodes nodes p = .error (.duplicateLabel w) ∧
      labelDefs nodes = pre ++ w :: post ∧ w.val ∈ pre.map (·.val) := by
  rcases buildLoop_spec (allCallNames nodes p) p nodes {} with ⟨_, _, _, hn⟩ | ⟨w, pre, post, e1, e2, e3⟩
  · exact absurd hn h
  · exact ⟨w, pre, post, by unfold buildNodes; rw [e1], e2, e3.resolve_left (by simp)⟩

/-- …and a program whose label names are pairwise distinct is never refused by this scan. -/
theorem no_duplicate_no_error (nodes : List Node) (p : Option (List (W String)))
    (h : ((labelDefs nodes).map (·.val)).Nodup) : ∃ g, buildNodes nodes p = .ok g := by
  rcases buildLoop_spec (allCallNames nodes p) p nodes {} with ⟨st', e, _⟩ | ⟨w, pre, post, _, e2, e3⟩
  · exact ⟨{ nodes := st'.out }, by unfold buildNodes; rw [e]⟩
  · -- the reported name occurs in `pre` and again right after it
    rw [e2, List.map_append, List.map_cons, List.nodup_append] at h
    exact absurd rfl (h.2.2 _ (e3.resolve_left (by simp)) _ List.mem_cons_self)

/-- **C16 (`buildCfg_total`).** Graph construction fails in exactly two situations, each with an
    error that names a label at an occurrence: a used name without definition, a name defined
    twice. In every other case it succeeds — it has no unexplained failure. -/
theorem buildCfg_total (nodes : List Node) (p : Option (List (W String))) :
    (undefinedNames nodes p ≠ [] ∧
        buildCfg nodes p = .error (.labelsNotDefined (undefinedNames nodes p))) ∨
    (undefinedNames nodes p = [] ∧ ¬ ((labelDefs nodes).map (·.val)).Nodup ∧
        ∃ w pre post, buildCfg nodes p = .error (.duplicateLabel w) ∧
          labelDefs nodes = pre ++ w :: post ∧ w.val ∈ pre.map (·.val)) ∨
    (undefinedNames nodes p = [] ∧ ((labelDefs nodes).map (·.val)).Nodup ∧ ∃ g, buildCfg nodes p = .ok g) := by
  by_cases hu : undefinedNames nodes p = []
  · rw [no_undefined_no_error nodes p hu]
    by_cases hd : ((labelDefs nodes).map (·.val)).Nodup
    · exact Or.inr (Or.inr ⟨hu, hd, no_duplicate_no_error nodes p hd⟩)
    · exact Or.inr (Or.inl ⟨hu, hd, duplicate_label_reported nodes p hd⟩)
  · exact Or.inl ⟨hu, undefined_label_reported nodes p hu⟩

end Rva
