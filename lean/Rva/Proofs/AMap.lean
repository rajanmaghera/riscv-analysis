/-
  Finite maps (`AMap`, association lists) through two facts: `get` returns a member of the list,
  and with one entry per key (`WF`) every member is returned. What is needed about `filter`,
  `meet` and `meetOver` follows from these. All for any key type.
-/
import Rva.Model.Available
namespace Rva

def AMap.WF {κ : Type} (m : AMap κ) : Prop := (m.map (·.1)).Nodup

namespace AMap
variable {κ : Type}

theorem wf_cons (x : κ × AVal) (m : AMap κ) : WF (x :: m) ↔ (∀ y ∈ m, y.1 ≠ x.1) ∧ WF m := by
  simp only [WF, List.map_cons, List.nodup_cons, List.mem_map, not_exists, not_and]

theorem wf_filter (m : AMap κ) (p : κ × AVal → Bool) (h : WF m) : WF (m.filter p) :=
  List.Nodup.sublist (List.Sublist.map _ List.filter_sublist) h

variable [DecidableEq κ]

theorem get_cons (x : κ × AVal) (m : AMap κ) (k : κ) :
    get (x :: m) k = if x.1 = k then some x.2 else get m k := by
  unfold get
  by_cases h : x.1 = k <;> simp [h]

theorem mem_of_get (m : AMap κ) (k : κ) (v : AVal) (h : get m k = some v) : (k, v) ∈ m := by
  obtain ⟨p, hp, rfl⟩ := Option.map_eq_some_iff.mp h
  obtain rfl : p.1 = k := by simpa using List.find?_some hp
  exact List.mem_of_find?_eq_some hp

theorem exists_get_of_mem (m : AMap κ) (k : κ) (v : AVal) (h : (k, v) ∈ m) : ∃ v', get m k = some v' := by
  cases hf : m.find? (·.1 == k) with
  | some p => exact ⟨p.2, by rw [get, hf]; rfl⟩
  | none => simpa using List.find?_eq_none.mp hf _ h

theorem get_of_mem (m : AMap κ) (k : κ) (v : AVal) (hw : WF m) (h : (k, v) ∈ m) : get m k = some v := by
  induction m with
  | nil => simp at h
  | cons x xs ih =>
    rw [wf_cons] at hw
    rw [get_cons]
    rcases List.mem_cons.mp h with rfl | h'
    · simp
    · rw [if_neg (fun e => hw.1 _ h' e.symm)]; exact ih hw.2 h'

theorem get_filter_wf (m : AMap κ) (p : κ × AVal → Bool) (k : κ) (v : AVal) (hw : WF m)
    (h : get (m.filter p) k = some v) : get m k = some v ∧ p (k, v) = true :=
  have hm := List.mem_filter.mp (mem_of_get _ k v h)
  ⟨get_of_mem m k v hw hm.1, hm.2⟩

theorem get_meet (m o : AMap κ) (k : κ) (v : AVal) (hw : WF m) (h : get (meet m o) k = some v) :
    get m k = some v ∧ get o k = some v :=
  have hm := get_filter_wf m _ k v hw h
  ⟨hm.1, by simpa using hm.2⟩

theorem get_meetOver (l : List (AMap κ)) (hw : ∀ m ∈ l, WF m) (o : AMap κ) (ho : o ∈ l) (k : κ) (v : AVal)
    (h : get (meetOver l) k = some v) : get o k = some v := by
  match l, hw, ho with
  | m :: rest, hw, ho =>
    have key : ∀ (rest : List (AMap κ)) (acc : AMap κ), WF acc → get (rest.foldl meet acc) k = some v →
        get acc k = some v ∧ ∀ o ∈ rest, get o k = some v := by
      intro rest
      induction rest with
      | nil => intro acc _ h; exact ⟨h, fun _ ho => nomatch ho⟩
      | cons x xs ih =>
        intro acc hacc h
        obtain ⟨h1, h2⟩ := ih _ (wf_filter acc _ hacc) h
        obtain ⟨h3, h4⟩ := get_meet acc x k v hacc h1
        exact ⟨h3, fun o ho => (List.mem_cons.mp ho).elim (fun e => e ▸ h4) (h2 o)⟩
    obtain ⟨h1, h2⟩ := key rest m (hw m List.mem_cons_self) h
    exact (List.mem_cons.mp ho).elim (fun e => e ▸ h1) (h2 o)

theorem get_erase (m : AMap κ) (k k' : κ) : get (erase m k') k = if k = k' then none else get m k := by
  unfold get erase
  rw [List.find?_filter]
  split
  · rename_i h; subst h; simp
  · rename_i h
    congr 2; funext a
    by_cases ha : a.1 = k <;> simp [ha, h]

theorem get_insert (m : AMap κ) (k k' : κ) (v : AVal) :
    get (insert m k' v) k = if k = k' then some v else get m k := by
  unfold insert; rw [get_cons, get_erase]
  by_cases h : k = k' <;> simp [h, eq_comm]

theorem get_foldl_erase (l : List κ) (m : AMap κ) (k : κ) :
    get (l.foldl erase m) k = if k ∈ l then none else get m k := by
  induction l generalizing m with
  | nil => simp
  | cons x xs ih =>
    simp only [List.foldl_cons, ih, get_erase, List.mem_cons]
    by_cases h1 : k ∈ xs <;> by_cases h2 : k = x <;> simp [h1, h2]

theorem wf_erase (m : AMap κ) (k : κ) (h : WF m) : WF (erase m k) := wf_filter m _ h

theorem wf_insert (m : AMap κ) (k : κ) (v : AVal) (h : WF m) : WF (insert m k v) :=
  (wf_cons _ _).mpr ⟨fun y hy => by simpa [erase] using (List.mem_filter.mp hy).2, wf_erase m k h⟩

theorem sameAs_get (a b : AMap κ) (h : sameAs a b = true) (k : κ) : get a k = get b k := by
  simp only [sameAs, Bool.and_eq_true, List.all_eq_true, beq_iff_eq] at h
  cases ha : get a k with
  | some v => exact (h.1 _ (mem_of_get a k v ha)).symm
  | none =>
    cases hb : get b k with
    | none => rfl
    | some w => exact ((h.2 _ (mem_of_get b k w hb)).symm.trans ha).symm

end AMap

theorem keysNodup_wf {κ : Type} [DecidableEq κ] (m : AMap κ) (h : keysNodup m = true) : AMap.WF m := by
  induction m with
  | nil => simp [AMap.WF]
  | cons p rest ih =>
    simp only [keysNodup, Bool.and_eq_true, Bool.not_eq_true', List.any_eq_false, beq_iff_eq] at h
    exact (AMap.wf_cons _ _).mpr ⟨h.1, ih h.2⟩

end Rva
