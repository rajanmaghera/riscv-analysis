/-
  C12 — stability under re-running passes: ecall termination changes no fact and no instruction
  (`cutOut_facts`, `ecallStep_facts`), and its step applied to a node twice returns the very same
  graph as once (`ecallStep_ecallStep`; `ecallStep_idem` says it with `Cfg.same`).
-/
import Rva.Proofs.Graph
namespace Rva

def CNode.facts (n : CNode) : AMap Reg × AMap Reg × AMap MemLoc × AMap MemLoc × RegSet × RegSet × RegSet :=
  (n.regIn, n.regOut, n.memIn, n.memOut, n.liveIn, n.liveOut, n.uDef)

/-- Cutting edges changes no fact and no instruction. -/
theorem cutOut_facts (g : Cfg) (i y : Nat) :
    ((g.cutOut i).get y).facts = (g.get y).facts ∧ ((g.cutOut i).get y).node = (g.get y).node := by
  rw [Cfg.cutOut_get]; exact ⟨rfl, rfl⟩

theorem cutOut_nexts_self (g : Cfg) (i : Nat) : ((g.cutOut i).get i).nexts = [] := by
  rw [Cfg.cutOut_get]; exact if_pos rfl

theorem cutOut_of_nexts_nil (g : Cfg) (i : Nat) (h : (g.get i).nexts = []) : g.cutOut i = g := by
  unfold Cfg.cutOut
  rw [h]
  refine Cfg.modify_eq_self g i _ ?_
  -- on a variable: `{ m with nexts := [] } = m` on the term `g.get i` makes the unifier unfold `get`
  generalize g.get i = m at h
  cases m; cases h; rfl

theorem cutOut_cutOut (g : Cfg) (i : Nat) : (g.cutOut i).cutOut i = g.cutOut i :=
  cutOut_of_nexts_nil _ i (cutOut_nexts_self g i)

def Cfg.same (g g' : Cfg) : Prop :=
  ∀ y, (g.get y).nexts = (g'.get y).nexts ∧ (g.get y).prevs = (g'.get y).prevs ∧
    (g.get y).facts = (g'.get y).facts ∧ (g.get y).node = (g'.get y).node

theorem Cfg.same.refl (g : Cfg) : g.same g := fun _ => ⟨rfl, rfl, rfl, rfl⟩

theorem cutOut_idem (g : Cfg) (i : Nat) : ((g.cutOut i).cutOut i).same (g.cutOut i) := by
  rw [cutOut_cutOut]; exact Cfg.same.refl _

theorem isProgramExit_cutOut (g : Cfg) (i y : Nat) :
    isProgramExit ((g.cutOut i).get y) = isProgramExit (g.get y) := by
  rw [Cfg.cutOut_get]; rfl

theorem ecallStep_ecallStep (g : Cfg) (i : Nat) : ecallStep (ecallStep g i) i = ecallStep g i := by
  unfold ecallStep
  by_cases h : isProgramExit (g.get i) = true
  · rw [if_pos h, if_pos (by rw [isProgramExit_cutOut, h]), cutOut_cutOut]
  · rw [if_neg h, if_neg h]

/-- **C12.** The ecall-termination step applied twice to a node is the same as once:
    re-running it removes no further edge and changes no fact. -/
theorem ecallStep_idem (g : Cfg) (i : Nat) : (ecallStep (ecallStep g i) i).same (ecallStep g i) := by
  rw [ecallStep_ecallStep]; exact Cfg.same.refl _

/-- **C12.** Ecall termination never changes a fact. -/
theorem ecallStep_facts (g : Cfg) (i y : Nat) : ((ecallStep g i).get y).facts = (g.get y).facts := by
  unfold ecallStep; split
  · exact (cutOut_facts g i y).1
  · rfl

end Rva
