/-
  C11, second half — the body of a function is exactly what its entry reaches. When the walk of
  `mark_reachable` ends with an empty stack, the recorded instructions contain the entry and are
  closed under the successor relation of the graph the walk leaves behind, rewired additional
  returns included (`markLoop_closed`), so they contain every node the entry reaches; conversely
  everything recorded is reachable from the entry (`markLoop_reach`).

  Also here, from `buildCfg_pushed`: in the graph built from parsed source a node is a function
  entry exactly when it carries a label that a call names (`entry_iff_called`).
-/
import Rva.Proofs.Markup
import Rva.Proofs.Build
namespace Rva

inductive Reach (g : Cfg) (e : Nat) : Nat → Prop where
  | refl : Reach g e e
  | step (a b : Nat) : Reach g e a → b ∈ (g.get a).nexts → Reach g e b

structure ClosedInv (e : Nat) (st : MarkSt) : Prop where
  same : st.insts = st.visited
  entry : e ∈ st.visited ∨ e ∈ st.stack
  closed : ∀ i ∈ st.visited, ∀ s ∈ (st.g.get i).nexts, s ∈ st.visited ∨ s ∈ st.stack
  ret : ∀ r, st.ret = some r → r ∈ st.visited ∧ r < st.g.nodes.size
  rnn : RetNoNext st.g

theorem markLoop_same (desc : Bool) (entry fuel : Nat) (st : MarkSt) (h : st.insts = st.visited) :
    (markLoop desc entry fuel st).insts = (markLoop desc entry fuel st).visited :=
  markLoop_induct (P := fun st => st.insts = st.visited)
    (fun _ _ hs h => by cases hs <;> simp only [h]) fuel st h

theorem seen_skip {st : MarkSt} {i x : Nat} {rest : List Nat} (hstk : st.stack = i :: rest)
    (hv : i ∈ st.visited) : x ∈ st.visited ∨ x ∈ rest ↔ x ∈ st.visited ∨ x ∈ st.stack := by
  rw [hstk, List.mem_cons]
  exact ⟨Or.imp_right Or.inr, fun h => h.elim Or.inl fun h => h.elim (fun e => Or.inl (e ▸ hv)) Or.inr⟩

theorem seen_push {st : MarkSt} {i x : Nat} {rest : List Nat} (desc : Bool) (succ : List Nat)
    (hstk : st.stack = i :: rest) :
    x ∈ i :: st.visited ∨ x ∈ pushSucc desc succ rest ↔ (x ∈ st.visited ∨ x ∈ st.stack) ∨ x ∈ succ := by
  simp only [hstk, List.mem_cons, mem_pushSucc, or_assoc, or_comm, or_left_comm]

def Closed (entry : Nat) (st : MarkSt) : Prop :=
  ∀ s, (s = entry ∨ ∃ i ∈ st.visited, s ∈ (st.g.get i).nexts) → s ∈ st.visited ∨ s ∈ st.stack

theorem markLoop_closure (desc : Bool) (entry fuel : Nat) (st : MarkSt) (hr : RetSeen st)
    (h : Closed entry st) : Closed entry (markLoop desc entry fuel st) := by
  refine markLoop_walk ?_ ?_ (fun _ _ _ _ _ h => h) ?_ fuel st hr h
  · intro st i rest hstk hv h s hs
    exact (seen_skip hstk hv).mpr (h s hs)
  · intro st i rest hstk _ h s hs
    rw [seen_push desc _ hstk]
    rcases hs with rfl | ⟨j, hj, hs⟩
    · exact Or.inl (h s (Or.inl rfl))
    · rw [(markOwner_edges _ _ _ j).2.1] at hs
      rcases List.mem_cons.mp hj with rfl | hj
      · exact Or.inr hs
      · exact Or.inl (h s (Or.inr ⟨j, hj, hs⟩))
  · -- the one new edge leads to a visited node
    intro st i r _ _ _ hrv _ _ h s hs
    rcases hs with rfl | ⟨j, hj, hs⟩
    · exact h s (Or.inl rfl)
    · rcases rewireReturn_nexts hs with ⟨_, rfl⟩ | hs
      · exact Or.inl hrv
      · exact h s (Or.inr ⟨j, hj, hs⟩)

theorem markLoop_closed (desc : Bool) (entry : Nat) (fuel : Nat) :
    ∀ st : MarkSt, ClosedInv entry st → ClosedInv entry (markLoop desc entry fuel st) := by
  intro st h
  have key := markLoop_closure desc entry fuel st h.ret
    (fun s hs => hs.elim (fun e => e ▸ h.entry) fun ⟨i, hi, hs⟩ => h.closed i hi s hs)
  exact ⟨markLoop_same desc entry fuel st h.same, key entry (Or.inl rfl),
    fun i hi s hs => key s (Or.inr ⟨i, hi, hs⟩), markLoop_retSeen desc entry fuel st h.ret,
    markLoop_rnn desc entry fuel st h.ret h.rnn⟩

/-- **C11 (`mark_complete`).** If the walk of a function ends because its stack is empty, every
    node the entry reaches in the resulting graph has been recorded as part of the function. -/
theorem mark_complete (desc : Bool) (g : Cfg) (e fuel : Nat) (hn : RetNoNext g)
    (hdone : (markLoop desc e fuel { g := g, stack := [e] }).stack = []) (n : Nat)
    (hreach : Reach (markLoop desc e fuel { g := g, stack := [e] }).g e n) :
    n ∈ (markLoop desc e fuel { g := g, stack := [e] }).insts := by
  have inv := markLoop_closed desc e fuel { g := g, stack := [e] }
    ⟨rfl, Or.inr List.mem_cons_self, fun _ hi => (nomatch hi), RetSeen.init g [e], hn⟩
  generalize markLoop desc e fuel { g := g, stack := [e] } = st at inv hdone hreach
  have seen : ∀ x, x ∈ st.visited ∨ x ∈ st.stack → x ∈ st.visited :=
    fun x h => h.resolve_right (hdone ▸ List.not_mem_nil)
  rw [inv.same]
  induction hreach with
  | refl => exact seen e inv.entry
  | step a b _ hab ih => exact seen b (inv.closed a ih b hab)

theorem Reach.mono {g g' : Cfg} {e x : Nat} (h : ∀ a b, b ∈ (g.get a).nexts → b ∈ (g'.get a).nexts)
    (hr : Reach g e x) : Reach g' e x := by
  induction hr with
  | refl => exact Reach.refl
  | step a b _ hab ih => exact Reach.step a b ih (h a b hab)

theorem EdgesSame.reach {g g' : Cfg} {e x : Nat} (h : EdgesSame g g') (hr : Reach g e x) : Reach g' e x :=
  hr.mono fun a _ hab => (h a).2.1 ▸ hab

theorem markLoop_reach (desc : Bool) (entry : Nat) (fuel : Nat) (st : MarkSt) (hr : RetSeen st)
    (hn : RetNoNext st.g) (h : ∀ i, i ∈ st.visited ∨ i ∈ st.stack → Reach st.g entry i) :
    ∀ i ∈ (markLoop desc entry fuel st).visited, Reach (markLoop desc entry fuel st).g entry i := by
  refine fun i hi => (markLoop_walk (desc := desc) (entry := entry)
    (P := fun st => RetNoNext st.g ∧ ∀ i, i ∈ st.visited ∨ i ∈ st.stack → Reach st.g entry i)
    ?_ ?_ (fun _ _ _ _ _ h => h) ?_ fuel st hr ⟨hn, h⟩).2 i (Or.inl hi)
  · intro st i rest hstk hv ⟨hn, h⟩
    exact ⟨hn, fun j hj => h j ((seen_skip hstk hv).mp hj)⟩
  · intro st i rest hstk _ ⟨hn, h⟩
    refine ⟨(markOwner_edges _ _ _).rnn hn, fun j hj => ?_⟩
    refine (markOwner_edges _ _ _).reach ?_
    rcases (seen_push desc _ hstk).mp hj with hj | hj
    · exact h j hj
    · exact Reach.step i j (h i (Or.inr (hstk ▸ List.mem_cons_self))) hj
  · -- rewiring replaces the successors of `i`, but a return has none: no edge is lost
    intro st i r _ hi _ _ _ _ ⟨hn, h⟩
    refine ⟨rewire_rnn _ i r hn, fun j hj => Reach.mono (fun a b hab => ?_) (h j hj)⟩
    rw [rewireReturn_get]
    simp only []
    split
    · rename_i hc; rw [hc.1, hn i hi] at hab; simp at hab
    · exact hab

/-- **C11 (`mark_sound`).** Every instruction the walk records for a function is reachable from
    the function's entry (in the graph the walk leaves behind). -/
theorem mark_sound (desc : Bool) (g : Cfg) (e fuel : Nat) (hn : RetNoNext g) (n : Nat)
    (h : n ∈ (markLoop desc e fuel { g := g, stack := [e] }).insts) :
    Reach (markLoop desc e fuel { g := g, stack := [e] }).g e n := by
  rw [markLoop_same desc e fuel _ rfl] at h
  refine markLoop_reach desc e fuel { g := g, stack := [e] } (RetSeen.init g [e]) hn (fun i hi => ?_) n h
  simp only [List.not_mem_nil, List.mem_singleton, false_or] at hi
  exact hi ▸ Reach.refl

/-- **C11 (`body_is_reachable_set`).** When the walk finishes, the recorded body of the function
    is exactly the set of nodes its entry reaches. -/
theorem body_is_reachable_set (desc : Bool) (g : Cfg) (e fuel : Nat) (hn : RetNoNext g)
    (hdone : (markLoop desc e fuel { g := g, stack := [e] }).stack = []) (n : Nat) :
    n ∈ (markLoop desc e fuel { g := g, stack := [e] }).insts ↔
      Reach (markLoop desc e fuel { g := g, stack := [e] }).g e n :=
  ⟨mark_sound desc g e fuel hn n, mark_complete desc g e fuel hn hdone n⟩

/-- **C11 (`markStep_body`).** One step of the markup pass at a function entry whose walk
    finished: exactly one function is added, it starts at that entry, and its recorded body is
    the set of nodes the entry reaches in the resulting graph. (`markAllDone`, evaluated by the
    driver for every generated program, decides the "walk finished" hypothesis.) -/
theorem markStep_body (desc : Bool) (g g' : Cfg) (e : Nat) (hn : RetNoNext g)
    (hfe : (g.get e).node.isFunctionEntry = true)
    (hdone : (markLoop desc e (markFuel g) { g := g, stack := [e] }).stack = [])
    (h : markStep desc g e = .ok g') :
    ∃ f, g'.funcs = g.funcs ++ [f] ∧ f.entry = e ∧ ∀ n, n ∈ f.nodes ↔ Reach g' e n := by
  -- the walk only touches node fields
  have hfuncs : (markLoop desc e (markFuel g) { g := g, stack := [e] }).g.funcs = g.funcs :=
    markLoop_graph (Q := fun g' => g'.funcs = g.funcs) (fun _ _ h => h) (fun _ _ _ _ _ _ h => h) _
      { g := g, stack := [e] } (RetSeen.init g [e]) rfl
  rcases markStep_ok desc g g' e h with ⟨hfe', _⟩ | ⟨_, _, r, rfl, _, hnodes, hf⟩
  · rw [hfe] at hfe'; exact absurd hfe' (by simp)
  · refine ⟨_, by rw [hf, hfuncs], rfl, fun n => ?_⟩
    rw [List.mem_reverse, body_is_reachable_set desc g e (markFuel g) hn hdone n]
    exact ⟨(edgesSame_of_nodes hnodes).reach, (edgesSame_of_nodes hnodes.symm).reach⟩

/-- **C11 (`function_entries_are_call_targets`).** In the graph built from parsed source (which
    contains no function-entry nodes of its own), every function entry carries a label that
    some `jal ra, …` / `call` — or, for interrupt handlers, the handler registration — names. -/
theorem function_entries_are_call_targets (nodes : List Node) (p : Option (List (W String))) (g : Cfg)
    (hsrc : ∀ n ∈ nodes, n.isFunctionEntry = false) (h : buildCfg nodes p = .ok g) :
    ∀ i, i < g.nodes.size → (g.get i).node.isFunctionEntry = true →
      (g.get i).labels.any (fun l => nameIn (allCallNames nodes p) l.val) = true := by
  refine buildCfg_pushed (Q := fun c => c.node.isFunctionEntry = true →
    c.labels.any (fun l => nameIn (allCallNames nodes p) l.val) = true) nodes p g (fun n hn c hc hfe => ?_) h
  cases hc with
  | entry cur _ _ hcalled => exact hcalled
  | body _ => rw [hsrc n hn] at hfe; exact absurd hfe (by simp)
  | plain _ _ _ => rw [hsrc n hn] at hfe; exact absurd hfe (by simp)

/-- **C11 (`called_labels_are_entries`).** In the graph built from parsed source, every node that
    carries a label named by a call (or by the handler registration) is a function entry. -/
theorem called_labels_are_entries (nodes : List Node) (p : Option (List (W String))) (g : Cfg)
    (h : buildCfg nodes p = .ok g) :
    ∀ i, i < g.nodes.size → (g.get i).labels.any (fun l => nameIn (allCallNames nodes p) l.val) = true →
      (g.get i).node.isFunctionEntry = true := by
  refine buildCfg_pushed (Q := fun c => c.labels.any (fun l => nameIn (allCallNames nodes p) l.val) = true →
    c.node.isFunctionEntry = true) nodes p g (fun n _ c hc hl => ?_) h
  cases hc with
  | entry _ _ _ _ => rfl
  | body _ => simp at hl
  | plain _ _ hnot => exact absurd hl hnot

/-- **C11 (`entry_iff_called`).** A node of the constructed graph is a function entry exactly when
    it carries a label that some call (or the handler registration) names. -/
theorem entry_iff_called (nodes : List Node) (p : Option (List (W String))) (g : Cfg)
    (hsrc : ∀ n ∈ nodes, n.isFunctionEntry = false) (h : buildCfg nodes p = .ok g) (i : Nat)
    (hi : i < g.nodes.size) :
    (g.get i).node.isFunctionEntry = true ↔
      (g.get i).labels.any (fun l => nameIn (allCallNames nodes p) l.val) = true :=
  ⟨function_entries_are_call_targets nodes p g hsrc h i hi, called_labels_are_entries nodes p g h i hi⟩

end Rva
