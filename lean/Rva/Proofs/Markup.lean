/-
  The function walk of `FunctionMarkupPass` (`markLoop`), taken apart once.

  One iteration is a `MarkStep`: drop a visited node from the stack (`skip`), or visit a node
  (`markPush`: owner marked, successors pushed, node recorded) and then, if it is a return,
  remember it (`first`) or rewire it to the remembered one (`later`). `markLoop_succ` is the only
  place where `markLoop` is unfolded; every property of the walk is an invariant of `MarkStep`
  (`markLoop_induct`), most of them through `markLoop_walk` (one obligation per mutation) or, for
  properties of the graph alone, `markLoop_graph`.
-/
import Rva.Proofs.C03
namespace Rva

def EdgesSame (g g' : Cfg) : Prop :=
  ∀ y, (g'.get y).node = (g.get y).node ∧ (g'.get y).nexts = (g.get y).nexts ∧
       (g'.get y).prevs = (g.get y).prevs

theorem EdgesSame.refl (g : Cfg) : EdgesSame g g := fun _ => ⟨rfl, rfl, rfl⟩
theorem EdgesSame.trans {a b c : Cfg} (h1 : EdgesSame a b) (h2 : EdgesSame b c) : EdgesSame a c :=
  fun y => ⟨(h2 y).1.trans (h1 y).1, (h2 y).2.1.trans (h1 y).2.1, (h2 y).2.2.trans (h1 y).2.2⟩

theorem EdgesSame.symm' {g g' : Cfg} (h : EdgesSame g g') (hs : Symm g) : Symm g' := by
  intro a b; rw [(h a).2.1, (h b).2.2]; exact hs a b

theorem EdgesSame.rnn {g g' : Cfg} (h : EdgesSame g g') (hn : RetNoNext g) : RetNoNext g' := by
  intro y hy; rw [(h y).1] at hy; rw [(h y).2.1]; exact hn y hy

theorem EdgesSame.pruned {g g' : Cfg} (h : EdgesSame g g') (hsz : g'.nodes.size = g.nodes.size) : Pruned g g' :=
  ⟨hsz, fun y => (h y).1, fun y => by rw [(h y).2.1]; exact .refl _, h.symm'⟩

theorem edgesSame_modify (g : Cfg) (i : Nat) (f : CNode → CNode)
    (hf : ∀ m, (f m).node = m.node ∧ (f m).nexts = m.nexts ∧ (f m).prevs = m.prevs) :
    EdgesSame g (g.modify i f) := by
  intro y
  rw [Cfg.get_modify]
  split
  · exact hf _
  · exact ⟨rfl, rfl, rfl⟩

theorem edgesSame_of_nodes {g g' : Cfg} (h : g'.nodes = g.nodes) : EdgesSame g g' :=
  fun y => by rw [Cfg.get_of_nodes h]; exact ⟨rfl, rfl, rfl⟩

theorem isReturn_lt {g : Cfg} {i : Nat} (h : (g.get i).node.isReturn = true) : i < g.nodes.size :=
  Classical.byContradiction fun hn => by rw [Cfg.get_oob g i hn] at h; exact absurd h (by decide)

def markOwner (entry : Nat) (g : Cfg) (i : Nat) : Cfg :=
  g.modify i fun m => { m with funcs := insNat entry m.funcs }

theorem markOwner_edges (entry : Nat) (g : Cfg) (i : Nat) : EdgesSame g (markOwner entry g i) :=
  edgesSame_modify g i _ fun _ => ⟨rfl, rfl, rfl⟩

theorem markOwner_size (entry : Nat) (g : Cfg) (i : Nat) : (markOwner entry g i).nodes.size = g.nodes.size :=
  Cfg.size_modify _ _ _

theorem markOwner_funcs (entry : Nat) (g : Cfg) (i y : Nat) :
    entry ∈ ((markOwner entry g i).get y).funcs ↔ (y = i ∧ i < g.nodes.size) ∨ entry ∈ (g.get y).funcs := by
  rw [markOwner, Cfg.get_modify]
  split
  · rename_i h; simp [h, mem_insNat]
  · rename_i h; simp [h]

theorem rewireReturn_nexts {g : Cfg} {i r a b : Nat} (h : b ∈ ((rewireReturn g i r).get a).nexts) :
    (a = i ∧ b = r) ∨ b ∈ (g.get a).nexts := by
  rw [rewireReturn_get] at h
  simp only [] at h
  split at h
  · rename_i hc; exact .inl ⟨hc.1, List.mem_singleton.mp h⟩
  · exact .inr h

/-- a rewired node is no return any more; the other nodes keep instruction and successors -/
theorem rewire_rnn (g : Cfg) (i r : Nat) (hn : RetNoNext g) : RetNoNext (rewireReturn g i r) := by
  intro y hy
  rw [rewireReturn_get] at hy ⊢
  simp only [] at hy ⊢
  split at hy
  · exact absurd hy (by simp [returnJump, Node.isReturn])
  · rename_i h; rw [if_neg h]; exact hn y hy

def pushSucc (desc : Bool) (succ rest : List Nat) : List Nat :=
  (if desc then succ.reverse else succ).foldl (fun s x => x :: s) rest

theorem mem_pushSucc (desc : Bool) (succ rest : List Nat) (x : Nat) :
    x ∈ pushSucc desc succ rest ↔ x ∈ succ ∨ x ∈ rest := by
  cases desc <;> simp [pushSucc]

theorem length_pushSucc (desc : Bool) (succ rest : List Nat) :
    (pushSucc desc succ rest).length = rest.length + succ.length := by
  cases desc <;> simp [pushSucc, Nat.add_comm]

abbrev markPush (desc : Bool) (entry : Nat) (st : MarkSt) (i : Nat) (rest : List Nat) : MarkSt :=
  { st with
    g := markOwner entry st.g i
    stack := pushSucc desc (st.g.get i).nexts rest
    visited := i :: st.visited
    insts := i :: st.insts
    defs := match (st.g.get i).node.writesTo with
      | some rd => st.defs ||| RegSet.single rd.val
      | none => st.defs }

inductive MarkStep (desc : Bool) (entry : Nat) (st : MarkSt) : MarkSt → Prop
  | skip {i rest} : st.stack = i :: rest → i ∈ st.visited → MarkStep desc entry st { st with stack := rest }
  | plain {i rest} : st.stack = i :: rest → i ∉ st.visited → (st.g.get i).node.isReturn = false →
      MarkStep desc entry st (markPush desc entry st i rest)
  | first {i rest} : st.stack = i :: rest → i ∉ st.visited → (st.g.get i).node.isReturn = true →
      st.ret = none → MarkStep desc entry st { markPush desc entry st i rest with ret := some i }
  | later {i rest r} : st.stack = i :: rest → i ∉ st.visited → (st.g.get i).node.isReturn = true →
      st.ret = some r →
      MarkStep desc entry st { markPush desc entry st i rest with g := rewireReturn (markOwner entry st.g i) i r }

theorem markLoop_succ (desc : Bool) (entry fuel : Nat) (st : MarkSt) :
    (st.stack = [] ∧ markLoop desc entry (fuel + 1) st = st) ∨
    ∃ st', MarkStep desc entry st st' ∧ markLoop desc entry (fuel + 1) st = markLoop desc entry fuel st' := by
  rw [markLoop]
  cases hstk : st.stack with
  | nil => exact Or.inl ⟨rfl, rfl⟩
  | cons i rest =>
    right
    simp only []
    by_cases hv : st.visited.contains i = true
    · rw [if_pos hv]; exact ⟨_, .skip hstk (by simpa using hv), rfl⟩
    · rw [if_neg hv]
      have hv : i ∉ st.visited := by simpa using hv
      by_cases hr : (st.g.get i).node.isReturn = true
      · rw [if_pos hr]
        split
        · rename_i r hret; exact ⟨_, .later hstk hv hr hret, rfl⟩
        · rename_i hret; exact ⟨_, .first hstk hv hr hret, rfl⟩
      · rw [if_neg hr]; exact ⟨_, .plain hstk hv (by simpa using hr), rfl⟩

theorem markLoop_induct {desc : Bool} {entry : Nat} {P : MarkSt → Prop}
    (step : ∀ st st', MarkStep desc entry st st' → P st → P st') (fuel : Nat) :
    ∀ st, P st → P (markLoop desc entry fuel st) := by
  induction fuel with
  | zero => exact fun _ h => h
  | succ n ih =>
    intro st h
    rcases markLoop_succ desc entry n st with ⟨_, e⟩ | ⟨st', hs, e⟩ <;> rw [e]
    · exact h
    · exact ih st' (step st st' hs h)

def RetSeen (st : MarkSt) : Prop := ∀ r, st.ret = some r → r ∈ st.visited ∧ r < st.g.nodes.size

theorem RetSeen.init (g : Cfg) (stack : List Nat) : RetSeen { g := g, stack := stack } :=
  fun _ h => nomatch h

theorem RetSeen.step {desc : Bool} {entry : Nat} {st st' : MarkSt} (hs : MarkStep desc entry st st')
    (h : RetSeen st) : RetSeen st' := by
  cases hs with
  | skip => exact h
  | plain =>
    exact fun r e => ⟨List.mem_cons_of_mem _ (h r e).1, by rw [markOwner_size]; exact (h r e).2⟩
  | first _ _ hi =>
    intro r e
    injection e with e
    subst e; exact ⟨List.mem_cons_self, by rw [markOwner_size]; exact isReturn_lt hi⟩
  | later =>
    exact fun r e => ⟨List.mem_cons_of_mem _ (h r e).1,
      by rw [rewireReturn_size, markOwner_size]; exact (h r e).2⟩

theorem markLoop_retSeen (desc : Bool) (entry fuel : Nat) (st : MarkSt) (h : RetSeen st) :
    RetSeen (markLoop desc entry fuel st) :=
  markLoop_induct (fun _ _ => RetSeen.step) fuel st h

/-- One obligation per mutation: `first` and `later` act on the state after the visit (`push`),
    whose last visited node `i` is a return. -/
theorem markLoop_walk {desc : Bool} {entry : Nat} {P : MarkSt → Prop}
    (skip : ∀ st i rest, st.stack = i :: rest → i ∈ st.visited → P st → P { st with stack := rest })
    (push : ∀ st i rest, st.stack = i :: rest → i ∉ st.visited → P st → P (markPush desc entry st i rest))
    (first : ∀ st i, i ∈ st.visited → (st.g.get i).node.isReturn = true → st.ret = none → P st →
      P { st with ret := some i })
    (later : ∀ st i r, i ∈ st.visited → (st.g.get i).node.isReturn = true → st.ret = some r →
      r ∈ st.visited → r < st.g.nodes.size → i ≠ r → P st → P { st with g := rewireReturn st.g i r })
    (fuel : Nat) (st : MarkSt) (hr : RetSeen st) (h : P st) : P (markLoop desc entry fuel st) := by
  refine (markLoop_induct (P := fun st => RetSeen st ∧ P st) ?_ fuel st ⟨hr, h⟩).2
  intro st st' hs ⟨hr, h⟩
  refine ⟨hr.step hs, ?_⟩
  have node1 : ∀ i, ((markOwner entry st.g i).get i).node.isReturn = (st.g.get i).node.isReturn :=
    fun i => by rw [(markOwner_edges entry st.g i i).1]
  cases hs with
  | skip hstk hv => exact skip st _ _ hstk hv h
  | plain hstk hv => exact push st _ _ hstk hv h
  | @first i rest hstk hv hi hret =>
    exact first (markPush desc entry st i rest) i List.mem_cons_self ((node1 i).trans hi) hret
      (push st _ _ hstk hv h)
  | @later i rest r hstk hv hi hret =>
    obtain ⟨hrv, hrlt⟩ := hr r hret
    exact later (markPush desc entry st i rest) i r List.mem_cons_self ((node1 i).trans hi) hret
      (List.mem_cons_of_mem _ hrv) (Nat.lt_of_lt_of_eq hrlt (markOwner_size ..).symm)
      (fun e => hv (e ▸ hrv)) (push st _ _ hstk hv h)

theorem markLoop_graph {desc : Bool} {entry : Nat} {Q : Cfg → Prop}
    (own : ∀ g i, Q g → Q (markOwner entry g i))
    (rew : ∀ g i r, i ≠ r → (g.get i).node.isReturn = true → r < g.nodes.size → Q g →
      Q (rewireReturn g i r))
    (fuel : Nat) (st : MarkSt) (hr : RetSeen st) (h : Q st.g) : Q (markLoop desc entry fuel st).g :=
  markLoop_walk (P := fun st => Q st.g) (fun _ _ _ _ _ h => h) (fun st i _ _ _ h => own st.g i h)
    (fun _ _ _ _ _ h => h) (fun st i r _ hi _ _ hr hir h => rew st.g i r hir hi hr h) fuel st hr h

theorem markLoop_rnn (desc : Bool) (entry fuel : Nat) (st : MarkSt) (hr : RetSeen st) (h : RetNoNext st.g) :
    RetNoNext (markLoop desc entry fuel st).g :=
  markLoop_graph (fun g i => (markOwner_edges entry g i).rnn) (fun g i r _ _ _ => rewire_rnn g i r) fuel st hr h

theorem markStep_ok (desc : Bool) (g g' : Cfg) (e : Nat) (h : markStep desc g e = .ok g') :
    ((g.get e).node.isFunctionEntry = false ∧ g' = g) ∨
    ((g.get e).node.isFunctionEntry = true ∧
      ∃ st r, st = markLoop desc e (markFuel g) { g := g, stack := [e] } ∧ st.ret = some r ∧
        g'.nodes = st.g.nodes ∧
        g'.funcs = st.g.funcs ++ [{ entry := e, exit := r, nodes := st.insts.reverse, defs := st.defs }]) := by
  unfold markStep at h
  split at h
  · rename_i hfe
    injection h with h
    exact Or.inl ⟨by simpa using hfe, h.symm⟩
  · rename_i hfe
    simp only [] at h
    split at h
    · exact absurd h (by simp)
    · rename_i r hr
      injection h with h
      subst h
      exact Or.inr ⟨by simpa using hfe, _, r, rfl, hr, rfl, rfl⟩

theorem markAll_induct {P : Cfg → Prop} (desc : Bool)
    (nodes : ∀ g g', g'.nodes = g.nodes → P g → P g')
    (walk : ∀ g e, P g → P (markLoop desc e (markFuel g) { g := g, stack := [e] }).g) :
    ∀ (l : List Nat) (g g' : Cfg), P g → markAll desc l g = .ok g' → P g' := by
  intro l
  induction l with
  | nil => intro g g' hp h; injection h with h; exact h ▸ hp
  | cons e rest ih =>
    intro g g' hp h
    rw [markAll] at h
    split at h
    · rename_i g1 hm
      refine ih g1 g' ?_ h
      rcases markStep_ok desc g g1 e hm with ⟨_, rfl⟩ | ⟨_, _, _, rfl, _, hn, _⟩
      · exact hp
      · exact nodes _ _ hn (walk g e hp)
    · exact absurd h (by simp)

end Rva
