/-
  The label a diagnostic about a set of labels is located at (`firstLabel`: 'Node in many
  functions', 'Labels not defined'): the minimum by (offsets, name). It is one of the labels, none
  comes before it, and it does not depend on the order in which the set is enumerated.
-/
import Rva.Model.Lints

namespace Rva

theorem labelBefore_irrefl (a : W String) : labelBefore a a = false := by
  simp [labelBefore, String.lt_irrefl]

theorem labelBefore_trans {a b c : W String} (h1 : labelBefore a b = true) (h2 : labelBefore b c = true) :
    labelBefore a c = true := by
  simp only [labelBefore, Bool.or_eq_true, Bool.and_eq_true, decide_eq_true_eq, beq_iff_eq] at *
  grind

theorem labelBefore_total {a b : W String} (h1 : labelBefore a b = false) (h2 : labelBefore b a = false) :
    a.tok.range.start.raw = b.tok.range.start.raw ∧ a.tok.range.stop.raw = b.tok.range.stop.raw ∧
      a.val = b.val := by
  simp only [labelBefore, Bool.or_eq_false_iff, Bool.and_eq_false_iff, decide_eq_false_iff_not,
    beq_eq_false_iff_ne, ne_eq] at h1 h2
  grind

/-- `firstLabel ls` is this fold over `ls.reverse`. -/
theorem firstLabel_foldr (l : List (W String)) (hne : l ≠ []) :
    ∃ m, l.foldr (fun x acc => firstLabelStep acc x) none = some m ∧ m ∈ l ∧
      ∀ x ∈ l, labelBefore x m = false := by
  induction l with
  | nil => exact absurd rfl hne
  | cons a l ih =>
    rw [List.foldr_cons]
    by_cases hl : l = []
    · subst hl
      exact ⟨a, rfl, List.mem_singleton.mpr rfl, List.forall_mem_singleton.mpr (labelBefore_irrefl a)⟩
    · obtain ⟨m, e, hm, hmin⟩ := ih hl
      rw [e, firstLabelStep]
      cases hb : labelBefore a m with
      | false => exact ⟨m, rfl, List.mem_cons_of_mem _ hm, List.forall_mem_cons.mpr ⟨hb, hmin⟩⟩
      | true =>
        -- `a` is the new minimum: a label before `a` would be before `m`
        refine ⟨a, rfl, List.mem_cons_self, List.forall_mem_cons.mpr ⟨labelBefore_irrefl a, fun x hx => ?_⟩⟩
        exact Bool.eq_false_iff.mpr fun hxa => Bool.eq_false_iff.mp (hmin x hx) (labelBefore_trans hxa hb)

theorem firstLabel_spec (ls : List (W String)) (hne : ls ≠ []) :
    ∃ m, firstLabel ls = some m ∧ m ∈ ls ∧ ∀ x ∈ ls, labelBefore x m = false := by
  obtain ⟨m, e, hm, hmin⟩ := firstLabel_foldr ls.reverse (mt List.reverse_eq_nil_iff.mp hne)
  exact ⟨m, List.foldl_eq_foldr_reverse.trans e, List.mem_reverse.mp hm, fun x hx => hmin x (List.mem_reverse.mpr hx)⟩

theorem firstLabel_none_iff (ls : List (W String)) : firstLabel ls = none ↔ ls = [] := by
  refine ⟨fun h => Decidable.byContradiction fun hne => ?_, fun h => h ▸ rfl⟩
  obtain ⟨m, hm, _⟩ := firstLabel_spec ls hne
  simp [h] at hm

/-- **C10 (`firstLabel_order_free`).** The label the lint reports at does not depend on the order in
    which the node's labels are enumerated (they come out of a hash set): two enumerations of
    the same labels yield labels with the same name at the same offsets. -/
theorem firstLabel_order_free (l1 l2 : List (W String)) (hne : l1 ≠ [])
    (hsame : ∀ x, x ∈ l1 ↔ x ∈ l2) :
    ∃ m1 m2, firstLabel l1 = some m1 ∧ firstLabel l2 = some m2 ∧ m1.val = m2.val ∧
      m1.tok.range.start.raw = m2.tok.range.start.raw ∧ m1.tok.range.stop.raw = m2.tok.range.stop.raw := by
  obtain ⟨m1, h1, hm1, hmin1⟩ := firstLabel_spec l1 hne
  obtain ⟨m2, h2, hm2, hmin2⟩ := firstLabel_spec l2 (List.ne_nil_of_mem ((hsame m1).mp hm1))
  have t := labelBefore_total (hmin2 m1 ((hsame m1).mp hm1)) (hmin1 m2 ((hsame m2).mpr hm2))
  exact ⟨m1, m2, h1, h2, t.2.2, t.1, t.2.1⟩

/-- **C14 (`firstLabel_renaming`).** Within one file (labels at pairwise different offsets) the
    chosen label does not depend on what the labels are called: for any rewriting `f` of the
    labels that keeps the order of their offsets (a renaming moves offsets but not their order),
    the label chosen among the rewritten ones is the rewriting of the label chosen before. -/
theorem firstLabel_renaming (ls : List (W String)) (f : W String → W String)
    (hinj : ∀ a ∈ ls, ∀ b ∈ ls, a.tok.range.start.raw = b.tok.range.start.raw → a = b)
    (hord : ∀ a ∈ ls, ∀ b ∈ ls, (a.tok.range.start.raw < b.tok.range.start.raw ↔
      (f a).tok.range.start.raw < (f b).tok.range.start.raw)) :
    firstLabel (ls.map f) = (firstLabel ls).map f := by
  by_cases hne : ls = []
  · subst hne; rfl
  obtain ⟨m, h1, hm, hmin⟩ := firstLabel_spec ls hne
  obtain ⟨m', h2, hm', hmin'⟩ := firstLabel_spec (ls.map f) (by simpa using hne)
  obtain ⟨x, hx, rfl⟩ := List.mem_map.mp hm'
  -- `x` does not start before `m`, nor `f m` before `f x`: the two start at the same offset
  have e1 := hmin x hx
  have e2 := hmin' (f m) (List.mem_map.mpr ⟨m, hm, rfl⟩)
  have n1 : ¬ x.tok.range.start.raw < m.tok.range.start.raw := fun h => by simp [labelBefore, h] at e1
  have n2 : ¬ m.tok.range.start.raw < x.tok.range.start.raw := fun h => by
    simp [labelBefore, (hord m hm x hx).mp h] at e2
  rw [h1, h2, hinj x hx m hm (by omega)]
  rfl

end Rva
