/-
  Theorems over the *generated* tables (tie (A)): they are re-checked by the kernel against
  what the Rust source says on every run.

  The kernel compares two numerals in one step, two strings byte by byte. So the tables of short
  names are searched by a numeric key (`strKey`): `keyEq` looks at the bytes only when the keys
  agree, `distinct` not at all.
-/
import Rva.Gen.Tables
import Rva.Spec.Asm
import Rva.Spec.Ecalls
namespace Rva
open Spec

def strKey (s : String) : Nat := s.toByteArray.data.toList.foldl (fun a c => a * 256 + c.toNat) 0

def keyEq (s t : String) : Bool := (strKey s).beq (strKey t) && s == t

theorem beq_eq_keyEq (s t : String) : (s == t) = keyEq s t := by
  unfold keyEq; by_cases h : s = t <;> simp [h]

def distinct : List Nat → Bool
  | [] => true
  | a :: l => !l.any (Nat.beq a) && distinct l

/-- the map need not be injective -/
theorem nodup_of_distinct {α} (f : α → Nat) : ∀ {l : List α}, distinct (l.map f) = true → l.Nodup
  | [], _ => .nil
  | a :: l, h => by
    simp only [List.map_cons, distinct, Bool.and_eq_true, Bool.not_eq_true', List.any_eq_false, List.mem_map] at h
    exact List.nodup_cons.mpr ⟨fun ha => h.1 _ ⟨a, ha, rfl⟩ (Nat.beq_refl _), nodup_of_distinct f h.2⟩

/-- Every RV32IM computational instruction is folded with the operator the manual gives it. -/
theorem mathOp_table_correct :
    ∀ p ∈ Spec.mathOps, (Gen.mathOp.find? (·.1 == p.1)).map (·.2) = some p.2 := by
  simp only [beq_eq_keyEq]
  decide +kernel

/-- …and nothing else is folded, except the RV64 `w` forms. -/
theorem mathOp_table_only :
    ∀ p ∈ Gen.mathOp, p ∈ Spec.mathOps ∨ p.1 ∈ Spec.rv64Only := by decide +kernel

/-- Only `add`, `addi`, `sub` are applied to entry-relative values. -/
theorem scalarOp_table_correct : Gen.scalarOp = Spec.scalarOps := by decide +kernel

/-- Every base mnemonic has the instruction format the manual gives it. -/
theorem format_table_correct :
    ∀ p ∈ Spec.formats, (Gen.instTypes.find? (·.1 == p.1)).map (·.2.1) = some p.2 := by
  simp only [beq_eq_keyEq]
  decide +kernel

/-- The mnemonic table is a function: no spelling is listed twice. -/
theorem mnemonics_nodup : (Gen.mnemonics.map (·.1)).Nodup :=
  nodup_of_distinct strKey (by decide +kernel)

theorem regNames_total : ∀ n ∈ List.range 32, (Gen.regNames.any (·.2 == n)) = true := by decide +kernel

/-- Numeric and ABI spellings denote the same register. -/
theorem reg_alias :
    ∀ p ∈ Spec.abiNames,
      (Gen.regNames.find? (·.1 == p.2)).map (·.2) = some p.1 ∧
      (Gen.regNames.find? (·.1 == "x" ++ toString p.1)).map (·.2) = some p.1 := by
  simp only [beq_eq_keyEq]
  decide +kernel

theorem regDisplay_correct : Gen.regDisplay = Spec.abiNames := by decide +kernel
theorem regToNum_id : ∀ p ∈ Gen.regToNum, p.1 = p.2 := by decide +kernel
theorem regFromNum_id : ∀ p ∈ Gen.regFromNum, p.1 = p.2 := by decide +kernel

theorem class_sets_match_abi :
    Gen.temporarySet = Spec.temporaries ∧ Gen.savedSet = Spec.saved ∧
    Gen.argumentSet = Spec.arguments ∧ Gen.returnSet = Spec.arguments ∧
    Gen.spRaSet = [1, 2] ∧ Gen.returnAddrSet = [1] ∧ Gen.constZeroSet = [0] ∧
    Gen.programArgsSet = [10, 11] ∧ Gen.ecallAlwaysArgumentSet = [17] ∧ Gen.ecallTypeReg = 17 := by
  decide +kernel

def sameClass (r s : Nat) : Bool :=
  r == s || (Spec.temporaries.contains r && Spec.temporaries.contains s) ||
    (Spec.saved.contains r && Spec.saved.contains s)

def wholeOrNone (C S : List Nat) : Bool := C.all S.contains || C.all (fun r => !S.contains r)

theorem wholeOrNone_contains {C S : List Nat} (h : wholeOrNone C S = true) {r s : Nat}
    (hr : C.contains r = true) (hs : C.contains s = true) : S.contains r = S.contains s := by
  have hr := List.contains_iff_mem.mp hr
  have hs := List.contains_iff_mem.mp hs
  simp only [wholeOrNone, Bool.or_eq_true, List.all_eq_true, Bool.not_eq_true'] at h
  rcases h with h | h <;> rw [h r hr, h s hs]

theorem contains_eq_of_sameClass {S : List Nat} (hT : wholeOrNone Spec.temporaries S = true)
    (hS : wholeOrNone Spec.saved S = true) {r s : Nat} (h : sameClass r s = true) :
    S.contains r = S.contains s := by
  simp only [sameClass, Bool.or_eq_true, Bool.and_eq_true, beq_iff_eq] at h
  rcases h with (rfl | ⟨hr, hs⟩) | ⟨hr, hs⟩
  · rfl
  · exact wholeOrNone_contains hT hr hs
  · exact wholeOrNone_contains hS hr hs

theorem classSets_whole : ∀ cs ∈ Gen.classSets,
    wholeOrNone Spec.temporaries cs.2 = true ∧ wholeOrNone Spec.saved cs.2 = true := by decide +kernel

/-- `class_sets_invariant` for all numbers, not only 0..31 -/
theorem classSets_sameClass (cs : String × List Nat) (hcs : cs ∈ Gen.classSets) (r s : Nat)
    (h : sameClass r s = true) : cs.2.contains r = cs.2.contains s :=
  contains_eq_of_sameClass (classSets_whole cs hcs).1 (classSets_whole cs hcs).2 h

/-- **C14 (tables).** Each of the twelve register sets the analyses use is a union of classes:
    membership is invariant under exchanging two temporaries or two saved registers. -/
theorem class_sets_invariant :
    ∀ cs ∈ Gen.classSets, ∀ r ∈ List.range 32, ∀ s ∈ List.range 32,
      sameClass r s = true → (cs.2.contains r = cs.2.contains s) :=
  fun cs hcs r _ s _ => classSets_sameClass cs hcs r s

/-- The ecall signature table only mentions argument registers (fixed by every admissible
    renaming). -/
theorem ecall_table_args_only :
    ∀ row ∈ Gen.ecallTable, (∀ r ∈ row.2.1, r ∈ Spec.arguments) ∧ (∀ r ∈ row.2.2, r ∈ Spec.arguments) := by
  decide +kernel

/-- **C02/C01 (tables).** For every RARS environment call of the independent table, the code's
    signature table lists exactly the registers the environment reads and writes. -/
theorem ecall_table_matches_rars :
    ∀ row ∈ Spec.rarsEcalls, Gen.ecallTable.find? (fun r => r.1 == row.1) = some row := by decide +kernel

theorem lint_codes_nodup : (Gen.lintCodes.map (·.2)).Nodup := by decide +kernel
theorem lint_titles_nonempty : ∀ p ∈ Gen.lintTitles, p.2 ≠ "" := by decide +kernel
theorem lint_tables_total :
    ∀ p ∈ Gen.lintCodes, (Gen.lintTitles.any (·.1 == p.1)) = true ∧
      (Gen.lintSeverities.any (·.1 == p.1)) = true := by decide +kernel
theorem lint_severity_functional : (Gen.lintSeverities.map (·.1)).Nodup := by decide +kernel

/-- The serde tags of `AvailableValue` are pairwise distinct. -/
theorem value_tags_nodup : (Gen.valueTags.map (·.2.1)).Nodup := by decide +kernel

end Rva
