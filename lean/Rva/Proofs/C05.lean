/-
  C05 — trigger lemmas for the lints that depend on no fixpoint (`save-to-zero` on the `rd`
  token, `invalid-segment` and `unknown-ecall` on the instruction): whenever the condition holds
  at a node of the finished graph, the diagnostic of that kind is produced, located on the
  offending operand / instruction, and is part of the final list (`mem_runLints`).
  Here and in C05b a pass that maps over the nodes is handled through one lemma that says which
  items it puts out (`mem_lintX`); `reported` and `nil_iff_of_mem_iff` turn that into the trigger
  and the silence theorem.
  Code / title / severity tables: `lint_codes_nodup`, `lint_tables_total`,
  `lint_severity_functional` (Proofs/Tables, over the generated tables).
-/
import Rva.Model.Lints
import Rva.Proofs.Graph
namespace Rva

theorem code_of {v c t : String} {r : Range} {f : FileId} {a : List (Range × FileId)}
    (h : ((Gen.lintCodes.find? (·.1 == v)).map (·.2)).getD "?" = c) : (lintDiag v r f t a).code = c :=
  h

theorem reported {l : List Diag} {v c t : String} {r : Range} {f : FileId} {a : List (Range × FileId)}
    (h : lintDiag v r f t a ∈ l)
    (hc : ((Gen.lintCodes.find? (·.1 == v)).map (·.2)).getD "?" = c) :
    ∃ x ∈ l, x.code = c ∧ x.range = r ∧ x.file = f :=
  ⟨_, h, code_of hc, rfl, rfl⟩

theorem nil_iff_of_mem_iff {α β γ} {l : List β} {s : List α} {T : α → γ → Prop} {f : α → γ → β}
    (h : ∀ d, d ∈ l ↔ ∃ x ∈ s, ∃ y, T x y ∧ d = f x y) : l = [] ↔ ∀ x ∈ s, ∀ y, ¬ T x y := by
  rw [List.eq_nil_iff_forall_not_mem]
  exact ⟨fun hn x hx y ht => hn _ ((h _).mpr ⟨x, hx, y, ht, rfl⟩),
    fun hn d hd => let ⟨x, hx, y, ht, _⟩ := (h d).mp hd; hn x hx y ht⟩

theorem mem_lintSaveToZero {g : Cfg} {d : Diag} :
    d ∈ lintSaveToZero g ↔ ∃ cn ∈ g.nodes.toList, ∃ rd, (cn.node.writesTo = some rd ∧ rd.val = 0 ∧
      cn.node.canSkipSaveChecks = false ∧ cn.node.isNop = false) ∧ d = onReg "SaveToZero" rd := by
  unfold lintSaveToZero
  rw [List.mem_filterMap]
  refine exists_congr fun cn => and_congr_right fun _ => ?_
  cases cn.node.writesTo <;> simp [and_assoc, eq_comm (a := d)]

theorem saveToZero_reported (g : Cfg) (i : Nat) (hi : i < g.nodes.size) (rd : W Reg)
    (hw : (g.get i).node.writesTo = some rd) (h0 : rd.val = 0)
    (hs : (g.get i).node.canSkipSaveChecks = false) (hn : (g.get i).node.isNop = false) :
    ∃ d ∈ lintSaveToZero g, d.code = "save-to-zero" ∧ d.range = rd.tok.range ∧ d.file = rd.tok.file :=
  reported (mem_lintSaveToZero.mpr ⟨_, g.get_mem_toList i hi, rd, ⟨hw, h0, hs, hn⟩, rfl⟩) (by decide +kernel)

theorem mem_lintInstructionInText {g : Cfg} {d : Diag} :
    d ∈ lintInstructionInText g ↔ ∃ cn ∈ g.nodes.toList,
      (cn.node.isInstruction = true ∧ cn.isText = false) ∧ onNode "InvalidSegment" cn.node = d := by
  simp [lintInstructionInText]

theorem invalidSegment_reported (g : Cfg) (i : Nat) (hi : i < g.nodes.size)
    (hinst : (g.get i).node.isInstruction = true) (hseg : (g.get i).isText = false) :
    ∃ d ∈ lintInstructionInText g, d.code = "invalid-segment" ∧ d.range = (g.get i).node.tok.range ∧
      d.file = (g.get i).node.tok.file :=
  reported (mem_lintInstructionInText.mpr ⟨_, g.get_mem_toList i hi, ⟨hinst, hseg⟩, rfl⟩) (by decide +kernel)

theorem mem_lintEcall {g : Cfg} {d : Diag} :
    d ∈ lintEcall g ↔ ∃ cn ∈ g.nodes.toList,
      (cn.node.isEcall = true ∧ knownEcall cn = none) ∧ onNode "UnknownEcall" cn.node = d := by
  simp [lintEcall]

theorem unknownEcall_reported (g : Cfg) (i : Nat) (hi : i < g.nodes.size)
    (he : (g.get i).node.isEcall = true) (hk : knownEcall (g.get i) = none) :
    ∃ d ∈ lintEcall g, d.code = "unknown-ecall" ∧ d.range = (g.get i).node.tok.range ∧
      d.file = (g.get i).node.tok.file :=
  reported (mem_lintEcall.mpr ⟨_, g.get_mem_toList i hi, ⟨he, hk⟩, rfl⟩) (by decide +kernel)

theorem mem_runLints (g : Cfg) (d : Diag) :
    d ∈ runLints g ↔
      d ∈ lintSaveToZero g ∨ d ∈ lintDeadValue g ∨ d ∈ lintInstructionInText g ∨ d ∈ lintEcall g ∨
      d ∈ lintControlFlow g ∨ d ∈ lintGarbageInput g ∨ d ∈ lintStack g ∨ d ∈ lintCalleeSaved g ∨
      d ∈ lintCalleeSavedGarbageRead g ∨ d ∈ lintLostCalleeSaved g ∨ d ∈ lintOverlapping g := by
  simp only [runLints, List.mem_append, or_assoc]

/-- the output of the three passes above is part of what `run_diagnostics` returns -/
theorem runLints_contains (g : Cfg) (d : Diag)
    (h : d ∈ lintSaveToZero g ∨ d ∈ lintInstructionInText g ∨ d ∈ lintEcall g) : d ∈ runLints g := by
  rw [mem_runLints]
  rcases h with h | h | h <;> simp [h]

end Rva
