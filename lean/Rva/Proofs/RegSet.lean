/-
  Register sets (`RegSet`, a 32-bit mask): membership in unions, intersections, differences,
  singletons and lists, and inclusion (`Sub`) with its monotonicity rules.
-/
import Rva.Model.Cfg
namespace Rva

namespace RegSet

@[simp] theorem mem_or (a b : RegSet) (r : Reg) : mem (a ||| b) r = (mem a r || mem b r) := by
  simp [mem]

@[simp] theorem mem_and (a b : RegSet) (r : Reg) : mem (a &&& b) r = (mem a r && mem b r) := by
  simp [mem]

@[simp] theorem mem_zero (r : Reg) : mem 0#32 r = false := by
  simp [mem]

theorem lt_of_mem {a : RegSet} {r : Reg} (h : mem a r = true) : r < 32 :=
  Nat.lt_of_not_le fun hge => by simp [mem, BitVec.getLsbD_of_ge a r hge] at h

@[simp] theorem mem_diff (a b : RegSet) (r : Reg) : mem (diff a b) r = (mem a r && !mem b r) := by
  cases h : mem a r
  · simp [diff, h]
  · have := lt_of_mem h
    simp_all [mem, diff]

theorem mem_allOnes {r : Reg} (h : r < 32) : mem (BitVec.allOnes 32) r = true := by
  unfold mem; rw [BitVec.getLsbD_allOnes]; simp [h]

theorem mem_single (x r : Nat) (h : x < 32 ∨ r < 32) : mem (single x) r = decide (r = x) := by
  unfold mem single
  rw [BitVec.getLsbD_shiftLeft]
  by_cases hx : r = x
  · subst hx; simp [h.elim id id]
  · by_cases h2 : r < x
    · simp [hx, h2]
    · have h3 : r - x ≠ 0 := by omega
      simp [hx, BitVec.getLsbD_one, h3]

theorem mem_ofList (l : List Nat) (r : Nat) (hr : r < 32) : mem (ofList l) r = l.contains r := by
  unfold ofList
  suffices ∀ acc : RegSet, mem (l.foldl (fun s x => s ||| single x) acc) r = (mem acc r || l.contains r) by
    simpa [empty] using this empty
  induction l with
  | nil => intro acc; simp
  | cons x xs ih =>
    intro acc
    rw [List.foldl_cons, ih, mem_or, mem_single x r (.inr hr), List.contains_cons, Bool.or_assoc]
    by_cases h : r = x
    · simp [h]
    · simp [h, show (r == x) = false by simpa using h]

theorem mem_toList (s : RegSet) (k : Reg) : k ∈ toList s ↔ mem s k = true := by
  simp only [toList, List.mem_filter, List.mem_range]
  exact ⟨fun h => h.2, fun h => ⟨lt_of_mem h, h⟩⟩

end RegSet

def Sub (a b : RegSet) : Prop := ∀ r, RegSet.mem a r = true → RegSet.mem b r = true

namespace Sub

theorem refl (a : RegSet) : Sub a a := fun _ h => h
theorem trans {a b c : RegSet} (h1 : Sub a b) (h2 : Sub b c) : Sub a c := fun r h => h2 r (h1 r h)

theorem zero (a : RegSet) : Sub 0#32 a := fun r h => by simp at h
theorem top (a : RegSet) : Sub a (BitVec.allOnes 32) := fun _ h => RegSet.mem_allOnes (RegSet.lt_of_mem h)

theorem or_left (a b : RegSet) : Sub a (a ||| b) := fun r h => by simp [h]
theorem or_right (a b : RegSet) : Sub b (a ||| b) := fun r h => by simp [h]

theorem or_le {a b c : RegSet} (h1 : Sub a c) (h2 : Sub b c) : Sub (a ||| b) c := fun r h => by
  rw [RegSet.mem_or, Bool.or_eq_true] at h
  exact h.elim (h1 r) (h2 r)

theorem or {a a' b b' : RegSet} (h1 : Sub a a') (h2 : Sub b b') : Sub (a ||| b) (a' ||| b') :=
  or_le (h1.trans (or_left _ _)) (h2.trans (or_right _ _))

theorem and {a a' : RegSet} (h : Sub a a') (k : RegSet) : Sub (a &&& k) (a' &&& k) := fun r hr => by
  rw [RegSet.mem_and, Bool.and_eq_true] at hr ⊢
  exact ⟨h r hr.1, hr.2⟩

theorem diff {a a' : RegSet} (h : Sub a a') (k : RegSet) : Sub (RegSet.diff a k) (RegSet.diff a' k) :=
  fun r hr => by
    rw [RegSet.mem_diff, Bool.and_eq_true] at hr ⊢
    exact ⟨h r hr.1, hr.2⟩

end Sub

end Rva
