/-
  C02 — liveness covers every use along a path.

  In any graph whose facts satisfy the equations, a register that is read at the end of a path
  and not overwritten before on that path is live at its start — the static half of "liveness
  covers every real use" (that every execution step is an edge is the execution oracle of C03). `LivePathExt`: paths
  through ordinary instructions, call sites and environment calls; a register stays live
  backwards through a call site unless the call clobbers it (caller-saved), is live before a call
  when the callee reads it as an argument (it is in the callee's entry live-out), through an
  `ecall` unless caller-saved, and before an `ecall` whose documented arguments include it.
  `LivePath` is the fragment with ordinary instructions only.
-/
import Rva.Proofs.C02
namespace Rva

theorem live_edge (g : Cfg) (i s : Nat) (h : LiveEqAt g i) (hs : s ∈ (g.get i).nexts) (r : Reg)
    (hr : RegSet.mem (g.get s).liveIn r = true) : RegSet.mem (g.get i).liveOut r = true := by
  rw [h.1, mem_unionOver]
  exact ⟨(g.get s).liveIn, List.mem_map.mpr ⟨s, hs, rfl⟩, hr⟩

/-- an ordinary instruction: not a call site (or jump to a function), not an ecall, not a return -/
def Ordinary (g : Cfg) (i : Nat) : Prop :=
  callsToFromCfg g (g.get i) = none ∧ (g.get i).node.isEcall = false ∧ (g.get i).node.isReturn = false

theorem live_transfer (g : Cfg) (i : Nat) (h : LiveEqAt g i) (ho : Ordinary g i) (r : Reg) :
    (RegSet.mem (g.get i).node.genReg r = true → RegSet.mem (g.get i).liveIn r = true) ∧
    (RegSet.mem (g.get i).liveOut r = true → RegSet.mem (g.get i).node.killReg r = false →
      RegSet.mem (g.get i).liveIn r = true) := by
  have h2 := h.2
  simp only [ho.1, ho.2.1, ho.2.2, Bool.false_eq_true, if_false] at h2
  rw [h2]
  exact ⟨fun hg => by simp [hg], fun hl hk => by simp [hl, hk]⟩

theorem live_call (g : Cfg) (i : Nat) (f : Func) (nm : W String) (h : LiveEqAt g i)
    (hc : callsToFromCfg g (g.get i) = some (f, nm)) (r : Reg) :
    (RegSet.mem (g.get f.entry).liveOut r = true → RegSet.mem argumentSet r = true →
      RegSet.mem (g.get i).liveIn r = true) ∧
    (RegSet.mem (g.get i).liveOut r = true → RegSet.mem (g.get i).node.killReg r = false →
      RegSet.mem (g.get i).liveIn r = true) ∧
    (RegSet.mem (g.get i).liveOut r = true → RegSet.mem (g.get f.exit).liveIn r = true) := by
  have h2 := h.2
  simp only [hc] at h2
  rw [h2.1, h2.2]
  exact ⟨fun h1 ha => by simp [h1, ha], fun hl hk => by simp [hl, hk], fun hl => by simp [hl]⟩

theorem live_ecall (g : Cfg) (i : Nat) (h : LiveEqAt g i)
    (hc : callsToFromCfg g (g.get i) = none) (he : (g.get i).node.isEcall = true) (r : Reg) :
    (RegSet.mem (g.get i).liveOut r = true → RegSet.mem callerSavedSet r = false →
      RegSet.mem (g.get i).liveIn r = true) ∧
    (RegSet.mem ecallAlwaysArgumentSet r = true → RegSet.mem (g.get i).liveIn r = true) ∧
    (RegSet.mem ((ecallSignature (g.get i)).getD (0#32, 0#32)).1 r = true →
      RegSet.mem (g.get i).liveIn r = true) := by
  have h2 := h.2
  simp only [hc, he, if_true] at h2
  rw [h2]
  exact ⟨fun hl hk => by simp [hl, hk], fun ha => by simp [ha], fun ha => by simp [ha]⟩

inductive LivePath (g : Cfg) (r : Reg) : Nat → Prop where
  | use (i : Nat) : Ordinary g i → RegSet.mem (g.get i).node.genReg r = true → LivePath g r i
  | step (i s : Nat) : Ordinary g i → s ∈ (g.get i).nexts →
      RegSet.mem (g.get i).node.killReg r = false → LivePath g r s → LivePath g r i

inductive LivePathExt (g : Cfg) (r : Reg) : Nat → Prop where
  | use (i : Nat) : Ordinary g i → RegSet.mem (g.get i).node.genReg r = true → LivePathExt g r i
  | step (i s : Nat) : Ordinary g i → s ∈ (g.get i).nexts →
      RegSet.mem (g.get i).node.killReg r = false → LivePathExt g r s → LivePathExt g r i
  | callArg (i : Nat) (f : Func) (nm : W String) : callsToFromCfg g (g.get i) = some (f, nm) →
      RegSet.mem argumentSet r = true → RegSet.mem (g.get f.entry).liveOut r = true → LivePathExt g r i
  | callThrough (i s : Nat) (f : Func) (nm : W String) : callsToFromCfg g (g.get i) = some (f, nm) →
      s ∈ (g.get i).nexts → RegSet.mem (g.get i).node.killReg r = false → LivePathExt g r s → LivePathExt g r i
  | ecallArg (i : Nat) : callsToFromCfg g (g.get i) = none → (g.get i).node.isEcall = true →
      (RegSet.mem ecallAlwaysArgumentSet r = true ∨
       RegSet.mem ((ecallSignature (g.get i)).getD (0#32, 0#32)).1 r = true) → LivePathExt g r i
  | ecallThrough (i s : Nat) : callsToFromCfg g (g.get i) = none → (g.get i).node.isEcall = true →
      s ∈ (g.get i).nexts → RegSet.mem callerSavedSet r = false → LivePathExt g r s → LivePathExt g r i

/-- **C02 (`live_path_sound_ext`).** In any solution of the liveness equations, a register that is
    read — by an instruction, by a callee as an argument, or by the environment as a documented
    argument — at the end of a path on which no instruction, call or environment call overwrites it
    is live at the start of the path. -/
theorem live_path_sound_ext (g : Cfg) (heq : ∀ i, LiveEqAt g i) (r : Reg) (i : Nat)
    (p : LivePathExt g r i) : RegSet.mem (g.get i).liveIn r = true := by
  induction p with
  | use i ho hg => exact (live_transfer g i (heq i) ho r).1 hg
  | step i s ho hs hk _ ih =>
    exact (live_transfer g i (heq i) ho r).2 (live_edge g i s (heq i) hs r ih) hk
  | callArg i f nm hc ha hl => exact (live_call g i f nm (heq i) hc r).1 hl ha
  | callThrough i s f nm hc hs hk _ ih =>
    exact (live_call g i f nm (heq i) hc r).2.1 (live_edge g i s (heq i) hs r ih) hk
  | ecallArg i hc he ha =>
    exact ha.elim (live_ecall g i (heq i) hc he r).2.1 (live_ecall g i (heq i) hc he r).2.2
  | ecallThrough i s hc he hs hk _ ih =>
    exact (live_ecall g i (heq i) hc he r).1 (live_edge g i s (heq i) hs r ih) hk

theorem LivePath.ext {g : Cfg} {r : Reg} {i : Nat} (p : LivePath g r i) : LivePathExt g r i := by
  induction p with
  | use i ho hg => exact .use i ho hg
  | step i s ho hs hk _ ih => exact .step i s ho hs hk ih

/-- **C02 (`live_path_sound`).** If the liveness equations hold everywhere, then a register
    that some path of ordinary instructions reads before any instruction on the path overwrites
    it is live at the start of the path. -/
theorem live_path_sound (g : Cfg) (heq : ∀ i, LiveEqAt g i) (r : Reg) (i : Nat)
    (p : LivePath g r i) : RegSet.mem (g.get i).liveIn r = true :=
  live_path_sound_ext g heq r i p.ext

end Rva
