/-
  C09 (lexer part): what one call of the lexer's iterator does, and the positions it reports.

  * `Advances`: the cursor moves by `consume_char` and in no other way; one induction per loop of
    the lexer shows this, and whatever `consume_char` preserves (the cursor invariant `CurInv`,
    a bound on `pos`) then holds wherever the lexer gets to.
  * `lexNext_spec`: a call skips blanks and, unless the text ends there, returns what `Lexed`
    describes from the first non-blank: a token (or unexpected-character item) whose range ends on
    the last character consumed for it, or a string error located where the scan stopped, with
    the lexer going on from there or later. Positions (`lexNext_ok`, `lexAll_positions`),
    progress, where an item starts and what is left at the end (Proofs/LexTotal) are read off this.
-/
import Rva.Spec.Position
namespace Rva
open Spec Cursor

theorem lineOf_zero (src : Array Char) : lineOf src 0 = 0 := by simp [lineOf]

theorem lineOf_succ (src : Array Char) (p : Nat) (ch : Char) (h : src[p]? = some ch) :
    lineOf src (p + 1) = lineOf src p + (if ch == '\n' then 1 else 0) := by
  simp only [lineOf, List.take_add_one, Array.getElem?_toList, h, Option.toList_some, List.filter_append,
    List.length_append, List.filter_cons, List.filter_nil]
  split <;> rfl

theorem lineStart_zero (src : Array Char) : lineStart src 0 = 0 := by simp [lineStart]

theorem lineStart_succ (src : Array Char) (p : Nat) :
    lineStart src (p + 1) = if src[p]? == some '\n' then p + 1 else lineStart src p := by
  simp only [lineStart, List.range_succ, List.reverse_append, List.reverse_cons, List.reverse_nil,
    List.nil_append, List.singleton_append, List.find?_cons]
  cases src[p]? == some '\n' <;> rfl

theorem lineStart_le (src : Array Char) (p : Nat) : lineStart src p ≤ p := by
  induction p with
  | zero => simp [lineStart_zero]
  | succ p ih => rw [lineStart_succ]; split <;> omega

theorem colOf_succ (src : Array Char) (p : Nat) (ch : Char) (h : src[p]? = some ch) :
    colOf src (p + 1) = if ch == '\n' then 0 else colOf src p + 1 := by
  have := lineStart_le src p
  simp only [colOf, lineStart_succ, h, Option.some.injEq, beq_iff_eq]
  split <;> omega

structure CurInv (src : Array Char) (c : Cursor) : Prop where
  pos_le : c.pos ≤ src.size
  row_eq : c.row = lineOf src c.pos
  col_eq : c.col = colOf src c.pos

theorem curInv_init (src : Array Char) : CurInv src Cursor.init :=
  ⟨Nat.zero_le _, by simp [Cursor.init, lineOf_zero], by simp [Cursor.init, colOf, lineStart_zero]⟩

theorem adv_inv (src : Array Char) (c : Cursor) (h : CurInv src c) : CurInv src (c.adv src) := by
  unfold Cursor.adv
  cases hc : src[c.pos]? with
  | none => exact h
  | some ch =>
    have hl := lineOf_succ src c.pos ch hc
    have hk := colOf_succ src c.pos ch hc
    cases hn : ch == '\n' <;> simp only [hn, Bool.false_eq_true, if_true, if_false] at hl hk ⊢
    · exact ⟨lt_size_of_cur hc, h.row_eq ▸ hl.symm, h.col_eq ▸ hk.symm⟩
    · exact ⟨lt_size_of_cur hc, h.row_eq ▸ hl.symm, hk.symm⟩

theorem getPos_ok (src : Array Char) (c : Cursor) (h : CurInv src c) : PosOK src c.getPos :=
  ⟨h.pos_le, h.row_eq, h.col_eq⟩

inductive Advances (src : Array Char) (c : Cursor) : Cursor → Prop
  | refl : Advances src c c
  | adv {d : Cursor} : Advances src c d → Advances src c (d.adv src)

namespace Advances
variable {src : Array Char} {c d e : Cursor}

/-- For the arms that end by consuming the character their loop stopped on: they have consumed
    at least the character they started on. -/
theorem adv_adv (h : Advances src c d) : Advances src (c.adv src) (d.adv src) := by
  induction h with
  | refl => exact refl
  | adv _ ih => exact ih.adv

theorem pres {I : Cursor → Prop} (hadv : ∀ c, I c → I (c.adv src)) (h : Advances src c d)
    (hc : I c) : I d := by
  induction h with
  | refl => exact hc
  | adv _ ih => exact hadv _ ih

theorem trans (h1 : Advances src c d) (h2 : Advances src d e) : Advances src c e :=
  h2.pres (fun _ => adv) h1

theorem head (h : Advances src (c.adv src) d) : Advances src c d :=
  trans (.adv .refl) h

theorem inv (h : Advances src c d) (hc : CurInv src c) : CurInv src d :=
  h.pres (adv_inv src) hc

theorem pos_le (h : Advances src c d) : c.pos ≤ d.pos :=
  h.pres (fun x hx => Nat.le_trans hx (adv_pos_le src x)) (Nat.le_refl _)

end Advances

section
variable (src : Array Char)

theorem skipWs_advances (c : Cursor) : Advances src c (skipWs src c) := by
  fun_induction skipWs src c with
  | case1 c ch hc hw ih => exact ih.head
  | case2 | case3 => exact .refl

theorem accWhile_advances (p : Char → Bool) (c : Cursor) (acc : List Char) :
    Advances src c (accWhile p src c acc).2 := by
  fun_induction accWhile p src c acc with
  | case1 c acc ch hc nx hn hp ih => exact ih.head
  | case2 | case3 | case4 => exact .refl

theorem accComment_advances (c : Cursor) (acc : List Char) : Advances src c (accComment src c acc).2 := by
  fun_induction accComment src c acc with
  | case2 c acc ch hc nx hn hp ih => exact ih.head
  | case1 | case3 | case4 => exact .refl

theorem skipInvalidLiteral_advances (q : Char) (c : Cursor) :
    Advances src c (skipInvalidLiteral q src c) := by
  fun_induction skipInvalidLiteral q src c with
  | case1 | case4 => exact .refl
  | case2 => exact .adv .refl
  | case3 c ch hc hn hq ih => exact ih.head

theorem unicodeCode_advances (c : Cursor) (ch : Char) (c' : Cursor)
    (hu : unicodeCode src c = some (ch, c')) : Advances src c c' := by
  unfold unicodeCode at hu
  repeat' split at hu
  all_goals cases hu
  exact .adv (.adv (.adv (.adv .refl)))

theorem escapeCode_advances (c : Cursor) (ch : Char) (c' : Cursor)
    (he : escapeCode src c = some (ch, c')) : Advances src c c' := by
  unfold escapeCode at he
  split at he
  iterate 9 (cases he; exact .adv .refl)
  · split at he
    · cases he; exact (unicodeCode_advances src c _ _ ‹_›).adv
    · cases he
  · cases he

def resCursor : Except (StrErr × Cursor) (List Char × Cursor) → Cursor
  | .ok (_, c) => c
  | .error (_, c) => c

theorem accString_advances (fuel : Nat) (c : Cursor) (acc : List Char) :
    Advances src c (resCursor (accString src fuel c acc)) := by
  fun_induction accString src fuel c acc with
  | case5 fuel c acc ch hc h1 h2 h3 e c' he ih => exact (escapeCode_advances src c e c' he).adv.trans ih
  | case7 fuel c acc ch hc h1 h2 h3 ih => exact ih.head
  | case1 | case2 | case3 | case4 | case6 => exact .refl

def tokOK (src : Array Char) (t : Token) : Prop :=
  PosOK src t.range.start ∧ PosOK src t.range.stop

def LexItem.OK (src : Array Char) : LexItem → Prop
  | .tok t => tokOK src t
  | .strErr t _ p => tokOK src t ∧ PosOK src p
  | .unexpected t => tokOK src t

/-- What an arm started on the character at `c` returns; `d` is the last cursor the item's range
    mentions. In `err` the scan stopped at `d`, after the opening quote, and `n` is where the
    lexer goes on (past the rest of the literal after an invalid escape). -/
inductive Lexed (src : Array Char) (c : Cursor) : LexItem × Cursor → Prop
  | tok {d : Cursor} {k : TokKind} {p t : String} :
      Advances src c d → Lexed src c (.tok ⟨k, p, t, ⟨c.getPos, d.getPos⟩⟩, d.adv src)
  | unexpected {d : Cursor} {k : TokKind} {p t : String} :
      Advances src c d → Lexed src c (.unexpected ⟨k, p, t, ⟨c.getPos, d.getPos⟩⟩, d.adv src)
  | err {d n : Cursor} {k : TokKind} {p t : String} {e : StrErr} :
      Advances src (c.adv src) d → Advances src d n →
      Lexed src c (.strErr ⟨k, p, t, ⟨c.getPos, d.getPos⟩⟩ e d.getPos, n)

theorem Lexed.next {src : Array Char} {c : Cursor} {r : LexItem × Cursor} (h : Lexed src c r) :
    Advances src (c.adv src) r.2 := by
  cases h with
  | tok h | unexpected h => exact h.adv_adv
  | err h hn => exact h.trans hn

theorem Lexed.ok {src : Array Char} {c : Cursor} {r : LexItem × Cursor} (h : Lexed src c r)
    (hc : CurInv src c) : r.1.OK src := by
  have ok : ∀ {d}, Advances src c d → PosOK src d.getPos := fun hd => getPos_ok src _ (hd.inv hc)
  cases h with
  | tok h | unexpected h => exact ⟨ok .refl, ok h⟩
  | err h _ => exact ⟨⟨ok .refl, ok h.head⟩, ok h.head⟩

theorem ite_both {α : Sort _} {P : α → Prop} {c : Prop} [Decidable c] {a b : α}
    (ha : P a) (hb : P b) : P (if c then a else b) := by
  split <;> assumption

theorem lexDirective_lexed (c : Cursor) : Lexed src c (lexDirective src c) :=
  have h := accWhile_advances src isSymbolChar c []
  ite_both (.unexpected h) (.tok h)

theorem lexComment_lexed (c : Cursor) : Lexed src c (lexComment src c) :=
  .tok (accComment_advances src c [])

theorem lexStringLit_lexed (c : Cursor) : Lexed src c (lexStringLit src c) := by
  have h := accString_advances src (src.size - (c.adv src).pos + 1) (c.adv src) []
  unfold lexStringLit; simp only []
  split <;> (rename_i heq; rw [heq] at h)
  · exact .tok h.head
  · exact .err h (ite_both (skipInvalidLiteral_advances src _ _) .refl)

theorem lexCharLit_lexed (c : Cursor) : Lexed src c (lexCharLit src c) := by
  unfold lexCharLit; simp only []
  split
  · exact .err .refl .refl
  · split
    · split
      · rename_i v c2 he
        have h3 := (escapeCode_advances src _ v c2 he).adv
        split
        · exact .tok h3.head
        · exact .err h3 .refl
        · exact .err h3 .refl
      · exact .err .refl (skipInvalidLiteral_advances src _ _)
    · split
      · exact .err .refl .refl
      · have h3 : Advances src (c.adv src) ((c.adv src).adv src) := .adv .refl
        split
        · exact .tok h3.head
        · exact .err h3 .refl
        · exact .err h3 .refl

theorem lexSymbol_lexed (c : Cursor) (ch : Char) : Lexed src c (lexSymbol src c ch) :=
  have h := accWhile_advances src isSymbolItem c []
  ite_both (.unexpected .refl) <| ite_both (.tok h.adv) (.tok h)

theorem lexNext_spec (c : Cursor) :
    match lexNext src c with
    | none => src.size ≤ (skipWs src c).pos
    | some r => (skipWs src c).pos < src.size ∧ Lexed src (skipWs src c) r := by
  unfold lexNext; simp only []
  cases h : cur src (skipWs src c) with
  | none => exact Array.getElem?_eq_none_iff.mp h
  | some ch =>
    -- every arm is `some _`, and which arm is taken does not matter (`split` on a chain of this
    -- length is far slower)
    simp only [← apply_ite some]
    exact ⟨lt_size_of_cur h,
      ite_both (.tok .refl) <| ite_both (.tok .refl) <| ite_both (.tok .refl) <|
      ite_both (lexDirective_lexed src _) <| ite_both (lexComment_lexed src _) <|
      ite_both (lexStringLit_lexed src _) <| ite_both (lexCharLit_lexed src _) <|
      lexSymbol_lexed src _ _⟩

theorem lexNext_some (c : Cursor) (r : LexItem × Cursor) (hr : lexNext src c = some r) :
    (skipWs src c).pos < src.size ∧ Lexed src (skipWs src c) r := by
  have hs := lexNext_spec src c
  rwa [hr] at hs

end

theorem lexNext_ok (src : Array Char) (c : Cursor) (h : CurInv src c) (r : LexItem × Cursor)
    (hr : lexNext src c = some r) : CurInv src r.2 ∧ r.1.OK src :=
  have hl := (lexNext_some src c r hr).2
  have h0 := (skipWs_advances src c).inv h
  ⟨hl.next.inv (adv_inv src _ h0), hl.ok h0⟩

/-- **C09 (tokens).** Every position of every item of the token stream is consistent. -/
theorem lexAll_positions (src : Array Char) (c : Cursor) (h : CurInv src c) :
    ∀ it ∈ lexAll src c, it.OK src := by
  fun_induction lexAll src c with
  | case1 => simp
  | case2 c it c' hn _ ih =>
    have := lexNext_ok src c h (it, c') hn
    exact List.forall_mem_cons.mpr ⟨this.2, ih this.1⟩
  | case3 c it c' hn _ => simpa using (lexNext_ok src c h (it, c') hn).2

theorem lexString_positions (s : String) :
    ∀ it ∈ lexString s, it.OK s.toList.toArray :=
  lexAll_positions _ _ (curInv_init _)

-- Non-vacuity: a concrete two-line text; the second-line token sits at line 1, column 1.
example : lexString "a\n b" =
    [.tok ⟨.symbol, "a", "a", ⟨⟨0, 0, 0⟩, ⟨0, 0, 0⟩⟩⟩,
     .tok ⟨.newline, "", "\n", ⟨⟨0, 1, 1⟩, ⟨0, 1, 1⟩⟩⟩,
     .tok ⟨.symbol, "b", "b", ⟨⟨1, 1, 3⟩, ⟨1, 1, 3⟩⟩⟩] := by decide +kernel

end Rva
