/-
  C01, fourth layer — calls (under the callee's contract), environment calls (under the
  environment's: it writes only the registers the analysis forgets, which for every documented
  RARS call are the registers the call writes, `ecallKills_known` / `ecallKills_unlisted`) and
  entries (the seeds hold at the start of an activation). The first two are instances of the
  frame rule (`frame_transfer_sound`). `exec_sound_full` is the execution theorem over all these
  steps; `exec_sound` is its restriction to the steps of `NodeStep`.
-/
import Rva.Proofs.C01Path
namespace Rva

theorem mem_ovSet_call (cn : CNode) (inReg : AMap Reg) (i : W String) (rd : W Reg) (name : W String)
    (t : RawTok) (hn : cn.node = .jumpLink i rd name t) (hrd : rd.val = 1) (r : Reg) :
    RegSet.mem (ovSet { cn with regIn := inReg }) r = true ↔ r ∈ Gen.callerSavedSet ∨ r = 1 := by
  have hcall : cn.node.callsTo = some name := by rw [hn]; simp [Node.callsTo, hrd]
  have hec : cn.node.isEcall = false := by rw [hn]; rfl
  have hov : ovSet { cn with regIn := inReg } =
      RegSet.diff callerSavedSet constZeroSet ||| returnAddrSet := by
    simp [ovSet, Node.killReg, hcall, hec, ecallSignature_none { cn with regIn := inReg } hec]
  have h1 : RegSet.toList (RegSet.diff callerSavedSet constZeroSet) = Gen.callerSavedSet := by decide +kernel
  have h2 : RegSet.toList returnAddrSet = [1] := by decide +kernel
  rw [hov, RegSet.mem_or, Bool.or_eq_true, ← RegSet.mem_toList, ← RegSet.mem_toList, h1, h2, List.mem_singleton]

/-- A call site, under the callee's contract: the callee returns with every register other than
    the caller-saved ones and `ra` unchanged. -/
theorem call_transfer_sound (cn : CNode) (inReg : AMap Reg) (inMem : AMap MemLoc) (s s' : MState)
    (i : W String) (rd : W Reg) (name : W String) (t : RawTok)
    (hn : cn.node = .jumpLink i rd name t) (hrd : rd.val = 1)
    (he0 : s.entry 0 = 0#32) (hs : Sound s inReg)
    (hcontract : ∀ r, r ∉ Gen.callerSavedSet → r ≠ 1 → r ≠ 0 → s'.reg r = s.reg r)
    (hentry : s'.entry = s.entry) (haddr : s'.addr = s.addr) :
    Sound s' (nodeRegOut cn inReg inMem) := by
  have hov := mem_ovSet_call cn inReg i rd name t hn hrd
  refine frame_transfer_sound cn inReg inMem s s' (by rw [hn]; rfl)
    ⟨by rw [hn]; rfl, fun _ _ => by rw [hn]; rfl⟩ he0 hs ?_ hentry haddr ?_
    (fun r v h => by rw [hn] at h; cases h) (fun rd v _ _ h => by rw [hn] at h; cases h)
  · intro r h0 hr
    obtain ⟨h1, h2⟩ := not_or.mp (mt (hov r).mpr (ne_true_of_eq_false hr))
    exact hcontract r h1 h2 h0
  · intro rd' hw _
    obtain rfl : rd = rd' := by rw [hn] at hw; exact Option.some.inj hw
    exact (hov _).mpr (Or.inr hrd)

def ecallKills (cn : CNode) (inReg : AMap Reg) : List Reg :=
  match ecallSignature { cn with regIn := inReg } with
  | some (_, rets) => RegSet.toList rets
  | none => [10, 11]

theorem ecall_facts (n : Node) (he : n.isEcall = true) :
    n.isAnyEntry = false ∧ n.noMemRead ∧ n.genRegValue = none ∧
    (∀ inn, mathResult n inn = none) ∧ n.writesTo = none ∧ n.genMemoryValue = none := by
  cases n <;> simp [Node.isEcall] at he
  exact ⟨rfl, ⟨rfl, fun _ _ => rfl⟩, rfl, fun _ => rfl, rfl, rfl⟩

theorem mem_ecallKills_of_ovSet (cn : CNode) (inReg : AMap Reg) (he : cn.node.isEcall = true) (r : Reg)
    (hr : RegSet.mem (ovSet { cn with regIn := inReg }) r = false) : r ∉ ecallKills cn inReg := by
  obtain ⟨S, K, hov, hK⟩ : ∃ S K, ovSet { cn with regIn := inReg } = S ||| K ∧
      RegSet.toList K = ecallKills cn inReg := by
    unfold ovSet ecallKills
    cases ecallSignature { cn with regIn := inReg } with
    | some p => exact ⟨_, _, rfl, rfl⟩
    | none => simp only [he, if_true]; exact ⟨_, _, rfl, toList_a0a1⟩
  rw [hov, RegSet.mem_or, Bool.or_eq_false_iff] at hr
  rw [← hK, RegSet.mem_toList, hr.2]
  exact Bool.noConfusion

/-- An `ecall`, provided the environment writes only registers the analysis forgets there
    (`ecallKills_known`, `ecallKills_unlisted`: which those are for the documented RARS calls). -/
theorem ecall_transfer_sound (cn : CNode) (inReg : AMap Reg) (inMem : AMap MemLoc) (s s' : MState)
    (he : cn.node.isEcall = true) (he0 : s.entry 0 = 0#32) (hs : Sound s inReg)
    (henv : ∀ r, r ∉ ecallKills cn inReg → r ≠ 0 → s'.reg r = s.reg r)
    (hentry : s'.entry = s.entry) (haddr : s'.addr = s.addr) :
    Sound s' (nodeRegOut cn inReg inMem) := by
  obtain ⟨hne, hnm, hgen, hmath, hw, _⟩ := ecall_facts cn.node he
  exact frame_transfer_sound cn inReg inMem s s' hne hnm he0 hs
    (fun r h0 hr => henv r (mem_ecallKills_of_ovSet cn inReg he r hr) h0) hentry haddr
    (fun rd h => by rw [hw] at h; cases h) (fun r v h => by rw [hgen] at h; cases h)
    (fun rd v _ _ h => by rw [hmath] at h; cases h)

/-- every call of `Spec.rarsEcalls` writes only `a0` / `a1` (so forgetting those two covers an
    `ecall` whose number is unknown); they are register numbers, which `ecallKills_known` needs
    to read them back out of the bit set -/
theorem ecallKill_covers_rars :
    (∀ row ∈ Spec.rarsEcalls, ∀ r ∈ row.2.2, r ∈ [10, 11]) ∧
    (∀ row ∈ Spec.rarsEcalls, ∀ r ∈ row.2.2, r < 32) := by decide +kernel

/-- for a call number the analysis knows and RARS documents, the forgotten registers are
    exactly the documented result registers -/
theorem ecallKills_known (cn : CNode) (inReg : AMap Reg) (c : Word) (row : Int × List Nat × List Nat)
    (hk : knownEcall { cn with regIn := inReg } = some c) (hrow : row ∈ Spec.rarsEcalls)
    (hc : row.1 = c.toInt) : ∀ r, r ∈ ecallKills cn inReg ↔ r ∈ row.2.2 := by
  intro r
  simp only [ecallKills, ecallSignature, hk, ← hc, ecall_table_matches_rars row hrow, RegSet.mem_toList]
  constructor
  · intro hm
    simpa [RegSet.mem_ofList row.2.2 r (RegSet.lt_of_mem hm)] using hm
  · intro hr
    rw [RegSet.mem_ofList row.2.2 r (ecallKill_covers_rars.2 row hrow r hr)]
    simpa using hr

/-- for a call number the table does not list (or an unknown one) the transfer forgets a0 and a1 -/
theorem ecallKills_unlisted (cn : CNode) (inReg : AMap Reg)
    (hs : ecallSignature { cn with regIn := inReg } = none) : ecallKills cn inReg = [10, 11] := by
  unfold ecallKills; rw [hs]

/-- every documented RARS call that is missing from the table writes, among the integer registers,
    only a0 and a1 (`Spec.rarsUnlisted`, written from the RARS documentation), and none of them is
    in the table after all -/
theorem unlisted_covered :
    (∀ row ∈ Spec.rarsUnlisted, ∀ r ∈ row.2, r ∈ [10, 11]) ∧
    (∀ row ∈ Spec.rarsUnlisted, Gen.ecallTable.find? (fun r => r.1 == row.1) = none) := by decide +kernel

theorem entry_facts (n : Node) (h : n.isAnyEntry = true) :
    n.callsTo = none ∧ n.isEcall = false ∧ n.genRegValue = none ∧ n.writesTo = none ∧ n.noMemRead ∧
      n.storesToMemory = none := by
  cases n <;> simp [Node.isAnyEntry] at h <;> exact ⟨rfl, rfl, rfl, rfl, ⟨rfl, fun _ _ => rfl⟩, rfl⟩

theorem AMap.get_extend {κ : Type} [DecidableEq κ] (m o : AMap κ) (k : κ) (v : AVal)
    (h : AMap.get (AMap.extend m o) k = some v) : (k, v) ∈ o ∨ AMap.get m k = some v := by
  unfold AMap.extend at h
  refine List.foldlRecOn o _ (motive := fun acc => AMap.get acc k = some v → _) .inr
    (fun acc ih p hp h => ?_) h
  rw [AMap.get_insert] at h
  split at h
  · rename_i hk; exact .inl (hk ▸ Option.some.inj h ▸ hp)
  · exact ih h

theorem entry_preRules_claims (cn : CNode) (inReg : AMap Reg) (hentry : cn.node.isAnyEntry = true)
    (hin : cn.node.isFunctionEntry = true ∨ inReg = [])
    (k : Reg) (val : AVal) (h : AMap.get (preRules cn inReg) k = some val) : val = .ors k 0#32 := by
  obtain ⟨hcall, hec, hgen, _⟩ := entry_facts cn.node hentry
  have seed : ∀ (m : AMap Reg) (S : RegSet) (b : Bool),
      (∀ v, AMap.get m k = some v → v = .ors k 0#32) →
      ∀ v, AMap.get (if b = true then AMap.extend m (originals S) else m) k = some v → v = .ors k 0#32 := by
    intro m S b hm v hv
    cases b with
    | false => exact hm v hv
    | true =>
      rcases AMap.get_extend _ _ k v hv with hv | hv
      · obtain ⟨r, _, e⟩ := List.mem_map.mp hv
        cases e; rfl
      · exact hm v hv
  unfold preRules at h
  simp only [hcall, hec, ecallSignature_none { cn with regIn := inReg } hec, hgen, insertGen, Option.isSome_none, Bool.false_eq_true,
    if_false] at h
  refine seed _ spRaSet _ (seed _ calleeSavedSet _ (seed _ allWritableSet _ ?_)) val h
  -- nothing that came in is kept (function entry), or nothing came in
  intro v hv
  rcases hin with hfe | rfl
  · rw [hfe] at hv; cases hv
  · split at hv
    · cases hv
    · rw [AMap.get_foldl_erase] at hv; split at hv <;> cases hv

/-- Entries: at a function's entry node - whatever the code that falls or jumps into it
    claims - and at a program entry reached with no incoming claims, the seeds hold as soon as
    the entry values are the current register values (the start of an activation). -/
theorem entry_transfer_sound (cn : CNode) (inReg : AMap Reg) (inMem : AMap MemLoc) (s' : MState)
    (hentry : cn.node.isAnyEntry = true) (hin : cn.node.isFunctionEntry = true ∨ inReg = [])
    (hact : ∀ r, s'.entry r = s'.reg r) (hz : s'.reg 0 = 0#32) :
    Sound s' (nodeRegOut cn inReg inMem) := by
  obtain ⟨_, _, _, hw, hnm, _⟩ := entry_facts cn.node hentry
  refine rules_sound cn inReg inMem s' hnm ((hact 0).trans hz) ?_
    (fun rd x h => by rw [hw] at h; cases h) (fun rd v h => by rw [hw] at h; cases h)
  intro k val _ hget
  rw [entry_preRules_claims cn inReg hentry hin k val hget]
  exact (hact k).symm.trans (by simp)

inductive NodeStep' (g : Cfg) (i : Nat) (s s' : MState) : Prop where
  | base : NodeStep g i s s' → NodeStep' g i s s'
  | call (inst : W String) (rd : W Reg) (name : W String) (t : RawTok) :
      (g.get i).node = .jumpLink inst rd name t → rd.val = 1 →
      (∀ r, r ∉ Gen.callerSavedSet → r ≠ 1 → r ≠ 0 → s'.reg r = s.reg r) →
      s'.entry = s.entry → s'.addr = s.addr → NodeStep' g i s s'
  | ecall : (g.get i).node.isEcall = true →
      (∀ r, r ∉ ecallKills (g.get i) (g.get i).regIn → r ≠ 0 → s'.reg r = s.reg r) →
      s'.entry = s.entry → s'.addr = s.addr → NodeStep' g i s s'
  | entry : (g.get i).node.isAnyEntry = true →
      ((g.get i).node.isFunctionEntry = true ∨ (g.get i).regIn = []) →
      (∀ r, s'.entry r = s'.reg r) → s'.reg 0 = 0#32 → NodeStep' g i s s'

inductive Exec' (g : Cfg) (V : List Nat) (i0 : Nat) (s0 : MState) : Nat → MState → Prop where
  | start : Exec' g V i0 s0 i0 s0
  | step (i j : Nat) (s s' : MState) : Exec' g V i0 s0 i s → NodeStep' g i s s' →
      i ∈ V → j ∈ V → i ∈ (g.get j).prevs → Exec' g V i0 s0 j s'

theorem nodeStep'_sound (g : Cfg) (i : Nat) (s s' : MState) (hs : Sound s (g.get i).regIn)
    (he : s.entry 0 = 0#32) (hstep : NodeStep' g i s s') :
    Sound s' (nodeRegOut (g.get i) (g.get i).regIn (g.get i).memIn) ∧ s'.entry 0 = 0#32 := by
  cases hstep with
  | base hb => exact nodeStep_sound g i s s' hs he hb
  | call inst rd name t hn hrd hc hentry haddr =>
    exact ⟨call_transfer_sound (g.get i) _ _ s s' inst rd name t hn hrd he hs hc hentry haddr, hentry ▸ he⟩
  | ecall hec henv hentry haddr =>
    exact ⟨ecall_transfer_sound (g.get i) _ _ s s' hec he hs henv hentry haddr, hentry ▸ he⟩
  | entry hen hempty hact hz =>
    exact ⟨entry_transfer_sound (g.get i) _ _ s' hen hempty hact hz, (hact 0).trans hz⟩

/-- **C01 (`exec_sound_full`).** As `exec_sound`, for executions that also contain calls (callee
    contract), environment calls (environment writes only the forgotten registers) and the
    start of an activation at a function or program entry. Not covered: loads and CSR
    instructions (claims that pass through memory). -/
theorem exec_sound_full (g : Cfg) (V : List Nat) (hf : GoodFacts g V) (i0 : Nat) (s0 : MState)
    (h0 : Sound s0 (g.get i0).regIn) (h0e : s0.entry 0 = 0#32) (j : Nat) (s' : MState)
    (he : Exec' g V i0 s0 j s') : Sound s' (g.get j).regIn := by
  suffices h : Sound s' (g.get j).regIn ∧ s'.entry 0 = 0#32 from h.1
  induction he with
  | start => exact ⟨h0, h0e⟩
  | step i j s s' _ hstep hi hj hedge ih =>
    obtain ⟨hout, hent⟩ := nodeStep'_sound g i s s' ih.1 ih.2 hstep
    exact ⟨edge_sound g V hf i j hi hj hedge s' hout, hent⟩

theorem Exec.full {g : Cfg} {V : List Nat} {i0 j : Nat} {s0 s' : MState} (he : Exec g V i0 s0 j s') :
    Exec' g V i0 s0 j s' := by
  induction he with
  | start => exact .start
  | step i j s s' _ hstep hi hj hedge ih => exact .step i j s s' ih (.base hstep) hi hj hedge

/-- **C01 (`exec_sound`).** In a finished run, if the claims attached to the start of an
    execution hold there, then at every later point of the execution — any number of steps,
    any branching and looping, through register-to-register instructions, branches, jumps and
    stores — every register claim attached to the node about to execute holds in the machine
    state. -/
theorem exec_sound (g : Cfg) (V : List Nat) (hf : GoodFacts g V) (i0 : Nat) (s0 : MState)
    (h0 : Sound s0 (g.get i0).regIn) (h0e : s0.entry 0 = 0#32) (j : Nat) (s' : MState)
    (he : Exec g V i0 s0 j s') : Sound s' (g.get j).regIn :=
  exec_sound_full g V hf i0 s0 h0 h0e j s' he.full

end Rva
