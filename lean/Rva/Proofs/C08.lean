/-
  C08 — constant folding equals RV32IM semantics.
  `operate_rv32`: for every operator and all 2^64 operand pairs the model of `MathOp::operate`
  equals the ISA-manual semantics `Spec.rv32`.

  The manual's side is `wrap` of an integer expression over the signed or unsigned reading of the
  operands; the code's side is a `BitVec` operation `z`. `z = wrap i` follows from `z.toInt = i`
  or `z.toNat = i` (`eq_wrap_of_toInt`, `eq_wrap_of_toNat`; modulo 2^32 is enough), and the
  library knows the readings of every `BitVec` operation.
-/
import Rva.Model.Ops
import Rva.Spec.Rv32Ops
namespace Rva
open Spec

theorem shamt_lt (y : Word) : shamt y < 32 := Nat.mod_lt _ (by decide)

theorem eq_wrap_of_toInt {z : Word} {i : Int} (h : z.toInt = i) : z = wrap i := by
  rw [← h, wrap, BitVec.ofInt_toInt]

theorem eq_wrap_of_toInt_bmod {z : Word} {i : Int} (h : z.toInt = i.bmod (2 ^ 32)) : z = wrap i :=
  BitVec.eq_of_toInt_eq (by rw [h, wrap, BitVec.toInt_ofInt])

theorem eq_wrap_of_toNat {z : Word} {i : Int} (h : (z.toNat : Int) = i) : z = wrap i := by
  rw [← h, wrap, BitVec.ofInt_natCast, BitVec.ofNat_toNat, BitVec.setWidth_eq]

theorem eq_wrap_of_toNat_mod {z : Word} {i : Int} (h : (z.toNat : Int) = i % 2 ^ 32) : z = wrap i := by
  apply BitVec.eq_of_toNat_eq
  rw [wrap, BitVec.toNat_ofInt]
  omega

theorem setWidth_eq_wrap (s : BitVec 64) : s.setWidth 32 = wrap s.toInt :=
  eq_wrap_of_toNat_mod (by rw [BitVec.toNat_setWidth, BitVec.toInt_eq_toNat_cond]; omega)

theorem toInt_eq_zero {y : Word} : y.toInt = 0 ↔ y = 0#32 := by
  rw [← BitVec.toInt_zero (w := 32), BitVec.toInt_inj]

theorem toNat_eq_zero {y : Word} : y.toNat = 0 ↔ y = 0#32 := by
  rw [← BitVec.toNat_inj]; rfl

theorem mul_lt_2_64 (a b : Nat) (ha : a < 2^32) (hb : b < 2^32) : a * b < 2^64 := by
  have : a * b < 2^32 * 2^32 := Nat.mul_lt_mul'' ha hb
  simpa using this

/-- The 64-bit signed product of two sign-extended words cannot overflow (so the Rust
    `i64 * i64` never panics in checked builds and equals the exact product). -/
theorem mulh_product_exact (x y : Word) :
    ((x.signExtend 64) * (y.signExtend 64)).toInt = x.toInt * y.toInt := by
  rw [BitVec.toInt_mul, BitVec.toInt_signExtend_of_le (by decide), BitVec.toInt_signExtend_of_le (by decide)]
  have h1 := @BitVec.toInt_mul_toInt_le 32 x y
  have h2 := @BitVec.le_toInt_mul_toInt 32 x y
  apply Int.bmod_eq_of_le <;> simp at * <;> omega

theorem su_bounds (a b : Int) (ha1 : -2147483648 ≤ a) (ha2 : a < 2147483648) (hb1 : 0 ≤ b)
    (hb2 : b < 4294967296) : -9223372036854775808 ≤ a * b ∧ a * b < 9223372036854775808 := by
  have h1 : a * b ≤ 2147483647 * b := Int.mul_le_mul_of_nonneg_right (by omega) hb1
  have h2 : -2147483648 * b ≤ a * b := Int.mul_le_mul_of_nonneg_right ha1 hb1
  omega

theorem mulhsu_product_exact (x y : Word) :
    ((x.signExtend 64) * (y.setWidth 64)).toInt = x.toInt * (y.toNat : Int) := by
  have hy : (y.setWidth 64).toInt = (y.toNat : Int) := by
    rw [BitVec.toInt_setWidth]
    apply Int.bmod_eq_of_le <;> simp <;> omega
  rw [BitVec.toInt_mul, BitVec.toInt_signExtend_of_le (by decide), hy]
  have hx1 := @BitVec.le_toInt 32 x
  have hx2 := @BitVec.toInt_lt 32 x
  have hb := y.isLt
  have := su_bounds x.toInt y.toNat (by simpa using hx1) (by simpa using hx2) (by omega) (by omega)
  apply Int.bmod_eq_of_le <;> simp <;> omega

/-- at `MIN / -1` the quotient 2^31 wraps to `MIN`: hence the `bmod` in the library's statement -/
theorem sdiv_eq_wrap (x y : Word) : x.sdiv y = wrap (x.toInt.tdiv y.toInt) :=
  eq_wrap_of_toInt_bmod (BitVec.toInt_sdiv x y)

theorem srem_eq_wrap (x y : Word) : x.srem y = wrap (x.toInt.tmod y.toInt) :=
  eq_wrap_of_toInt (BitVec.toInt_srem x y)

/-- **C08 (constant folding).** For every one of the eighteen folded operators and *all* pairs
    of 32-bit operands, the model of `MathOp::operate` equals RV32IM semantics — including
    shift amounts of 32 or more, division by zero and signed overflow. -/
theorem operate_rv32 (op : MathOp) (x y : Word) : operate op x y = rv32 op x y := by
  cases op
  case add => exact eq_wrap_of_toInt_bmod (BitVec.toInt_add x y)
  case sub => exact eq_wrap_of_toInt_bmod BitVec.toInt_sub
  case mul => exact eq_wrap_of_toInt_bmod (BitVec.toInt_mul x y)
  case and | or | xor => rfl
  case slt | sltu => simp only [operate, rv32, boolWord, BitVec.slt, BitVec.ult, decide_eq_true_eq]
  case sll => exact eq_wrap_of_toNat_mod (by simp [operate, shamt, sh5, Nat.shiftLeft_eq])
  case srl => exact eq_wrap_of_toNat (by simp [operate, shamt, sh5, Nat.shiftRight_eq_div_pow])
  case sra =>
    exact eq_wrap_of_toInt (by simp [operate, shamt, sh5, BitVec.toInt_sshiftRight, Int.shiftRight_eq_div_pow])
  case mulhu =>
    exact eq_wrap_of_toNat_mod (by
      simp [operate, BitVec.toNat_mul, Nat.shiftRight_eq_div_pow,
        Nat.mod_eq_of_lt (mul_lt_2_64 _ _ x.isLt y.isLt)])
  case mulh | mulhsu =>
    simp only [operate, rv32, setWidth_eq_wrap, BitVec.toInt_sshiftRight, mulh_product_exact,
      mulhsu_product_exact, Int.shiftRight_eq_div_pow]
    rfl
  case div | rem =>
    simp only [operate, rv32, sdiv_eq_wrap, srem_eq_wrap, toInt_eq_zero]
    split
    · rfl
    · split
      · next h => rw [h.1, h.2]; rfl
      · rfl
  case divu | remu =>
    simp only [operate, rv32, toNat_eq_zero]
    split
    · rfl
    · exact eq_wrap_of_toNat (by simp)

/-- Non-vacuity / edge cases the property names explicitly, as closed instances. -/
example : operate .sll 1#32 32#32 = 1#32 := by decide +kernel
example : operate .div (BitVec.intMin 32) (-1#32) = BitVec.intMin 32 := by decide +kernel
example : operate .rem (BitVec.intMin 32) (-1#32) = 0#32 := by decide +kernel
example : operate .div 7#32 0#32 = BitVec.allOnes 32 := by decide +kernel
example : operate .mulhu (-1#32) (-1#32) = 0xFFFFFFFE#32 := by decide +kernel
example : operate .mulhsu (-1#32) (-1#32) = 0xFFFFFFFF#32 := by decide +kernel

end Rva
