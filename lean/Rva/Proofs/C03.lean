/-
  C03 — the successor and predecessor relations of the graph are exact inverses (`Symm`) after
  every edge-mutating pass. The edge-removing passes (dead code, ecall termination) are built from
  `cutOut`/`cutIn`; what they do to a graph is the relation `Pruned`, one lemma per pass
  (`deadCode_pruned`, `ecallTerm_pruned`), and every invariant that survives pruning follows.
-/
import Rva.Proofs.Graph
namespace Rva

/-- prev/next are exact inverses (for all indices; out-of-range indices have no edges). -/
def Symm (g : Cfg) : Prop := ∀ a b, b ∈ (g.get a).nexts ↔ a ∈ (g.get b).prevs

theorem Symm.nexts_lt {g : Cfg} (h : Symm g) {a b : Nat} (hb : b ∈ (g.get a).nexts) :
    a < g.nodes.size ∧ b < g.nodes.size := by
  constructor
  · refine Classical.byContradiction fun hn => ?_
    rw [Cfg.get_oob g a hn] at hb; exact absurd hb List.not_mem_nil
  · refine Classical.byContradiction fun hn => ?_
    have := (h a b).mp hb
    rw [Cfg.get_oob g b hn] at this; exact absurd this List.not_mem_nil

/-- what the direction pass establishes (`directions_rnn`) and every later pass keeps; the function
    walk relies on it when it gives a second return its one new successor -/
def RetNoNext (g : Cfg) : Prop := ∀ i, (g.get i).node.isReturn = true → (g.get i).nexts = []

/-- A graph without edges is symmetric (what `Cfg::new` returns). -/
theorem symm_of_no_edges (g : Cfg) (h : ∀ i, (g.get i).nexts = [] ∧ (g.get i).prevs = []) : Symm g := by
  intro a b; rw [(h a).1, (h b).2]; simp

theorem cutOut_symm (g : Cfg) (i : Nat) (h : Symm g) : Symm (g.cutOut i) := by
  intro a b
  simp only [Cfg.cutOut_get]
  by_cases ha : a = i
  · subst ha
    by_cases hb : b ∈ (g.get a).nexts
    · simp [hb, mem_removeNat]
    · simp [hb, ← h a b]
  · by_cases hb : b ∈ (g.get i).nexts <;> simp [ha, hb, mem_removeNat, h a b]

theorem cutIn_symm (g : Cfg) (i : Nat) (h : Symm g) : Symm (g.cutIn i) := by
  intro a b
  simp only [Cfg.cutIn_get]
  by_cases hb : b = i
  · subst hb
    by_cases ha : a ∈ (g.get b).prevs
    · simp [ha, mem_removeNat]
    · simp [ha, h a b]
  · by_cases ha : a ∈ (g.get i).prevs <;> simp [ha, hb, mem_removeNat, h a b]

/-- `g'` is `g` with some edges taken out (read on the successor side), in a way that keeps
    `Symm`. Reflexive and transitive, so a pass made of cuts is a pruning. -/
structure Pruned (g g' : Cfg) : Prop where
  size : g'.nodes.size = g.nodes.size
  node : ∀ y, (g'.get y).node = (g.get y).node
  nexts : ∀ y, (g'.get y).nexts.Sublist (g.get y).nexts
  symm : Symm g → Symm g'

theorem Pruned.refl (g : Cfg) : Pruned g g := ⟨rfl, fun _ => rfl, fun _ => .refl _, id⟩

theorem Pruned.trans {a b c : Cfg} (h1 : Pruned a b) (h2 : Pruned b c) : Pruned a c :=
  ⟨h2.size.trans h1.size, fun y => (h2.node y).trans (h1.node y), fun y => (h2.nexts y).trans (h1.nexts y),
   fun h => h2.symm (h1.symm h)⟩

theorem cutOut_pruned (g : Cfg) (i : Nat) : Pruned g (g.cutOut i) := by
  refine ⟨g.cutOut_size i, fun y => by rw [Cfg.cutOut_get], fun y => ?_, cutOut_symm g i⟩
  rw [Cfg.cutOut_get]
  by_cases h : y = i <;> simp [h]

theorem cutIn_pruned (g : Cfg) (i : Nat) : Pruned g (g.cutIn i) := by
  refine ⟨g.cutIn_size i, fun y => by rw [Cfg.cutIn_get], fun y => ?_, cutIn_symm g i⟩
  rw [Cfg.cutIn_get]
  by_cases h : y ∈ (g.get i).prevs <;> simp [h, removeNat_sublist]

theorem Pruned.ite {g g' : Cfg} (c : Prop) [Decidable c] (h : Pruned g g') :
    Pruned g (if c then g' else g) := by
  split
  · exact h
  · exact .refl g

theorem deadStep_pruned (g : Cfg) (i : Nat) : Pruned g (deadStep g i) := by
  unfold deadStep
  simp only []
  split
  · exact .refl g
  · exact (Pruned.ite _ (cutIn_pruned g i)).trans (Pruned.ite _ (cutOut_pruned _ i))

theorem foldl_pruned (f : Cfg → Nat → Cfg) (hf : ∀ g i, Pruned g (f g i)) (l : List Nat) (g : Cfg) :
    Pruned g (l.foldl f g) := by
  induction l generalizing g with
  | nil => exact .refl g
  | cons x xs ih => exact (hf g x).trans (ih _)

theorem deadLoop_pruned (fuel : Nat) (g : Cfg) : Pruned g (deadLoop fuel g) := by
  induction fuel generalizing g with
  | zero => exact .refl g
  | succ n ih =>
    unfold deadLoop
    simp only []
    have hs : Pruned g (deadSweep g) := foldl_pruned deadStep deadStep_pruned _ g
    split
    · exact hs
    · exact hs.trans (ih _)

theorem deadCode_pruned (g : Cfg) : Pruned g (deadCode g) := deadLoop_pruned _ g

theorem ecallTerm_pruned (g : Cfg) : Pruned g (ecallTerm g) :=
  foldl_pruned ecallStep (fun g i => Pruned.ite _ (cutOut_pruned g i)) _ g

/-- **C03.** Dead-code pruning keeps the successor and predecessor relations exact inverses. -/
theorem deadCode_symm (g : Cfg) (h : Symm g) : Symm (deadCode g) := (deadCode_pruned g).symm h

/-- **C03.** Cutting the edges after an exit ecall keeps them inverses. -/
theorem ecallTerm_symm (g : Cfg) (h : Symm g) : Symm (ecallTerm g) := (ecallTerm_pruned g).symm h

end Rva
