/-
  C03, the whole pipeline — `pipeline_symm`: for every list of parsed nodes for which
  `Manager::gen_full_cfg` succeeds, the graph it returns has successor and predecessor relations
  that are exact inverses (so every edge is inside the node array, `Symm.nexts_lt`).
  `pipeline_wired` carries `Wired` through the passes in the order of the code: construction (no
  edges), directions, dead-code pruning, value analysis (edges untouched), ecall termination,
  function markup with its rewiring, value analysis, ecall termination, liveness (edges untouched).
-/
import Rva.Proofs.C03b
import Rva.Proofs.Directions
import Rva.Proofs.Build
import Rva.Proofs.C02Least
import Rva.Model.Pipeline
namespace Rva

theorem availNode_edges (g : Cfg) (vis : List Nat) (i : Nat) : EdgesSame g (availNode g vis i).1 := by
  unfold availNode
  simp only []
  split
  · exact EdgesSame.refl g
  · exact edgesSame_modify g i _ (fun _ => ⟨rfl, rfl, rfl⟩)

theorem available_rel {R : Cfg → Cfg → Prop} (refl : ∀ g, R g g) (trans : ∀ {a b c}, R a b → R b c → R a c)
    (node : ∀ g vis i, R g (availNode g vis i).1) (g : Cfg) : R g (available g).1 := by
  have sweep : ∀ g vis, R g (availSweep g vis).1 := fun g vis =>
    List.foldlRecOn (motive := fun acc : Cfg × List Nat × Bool => R g acc.1) _ _ (refl g)
      fun acc h i _ => trans h (node acc.1 acc.2.1 i)
  suffices ∀ fuel g vis, R g (availLoop fuel g vis).1 from this _ g []
  intro fuel
  induction fuel with
  | zero => intro g vis; exact refl g
  | succ n ih =>
    intro g vis
    unfold availLoop
    have h := sweep g vis
    generalize availSweep g vis = r at h
    obtain ⟨g', vis', ch⟩ := r
    simp only []
    split
    · exact trans h (ih g' vis')
    · exact h

theorem available_edges (g : Cfg) : EdgesSame g (available g).1 :=
  available_rel EdgesSame.refl EdgesSame.trans availNode_edges g

theorem available_size (g : Cfg) : (available g).1.nodes.size = g.nodes.size :=
  available_rel (R := fun g g' => g'.nodes.size = g.nodes.size) (fun _ => rfl) (fun h1 h2 => h2.trans h1)
    (fun g vis i => by unfold availNode; simp only []; split; rfl; exact Cfg.size_modify _ _ _) g

theorem available_pruned (g : Cfg) : Pruned g (available g).1 :=
  (available_edges g).pruned (available_size g)

theorem liveness_edges (g : Cfg) : EdgesSame g (liveness g).1 := fun y =>
  have h := (liveness_shape g).2.2.2 y
  ⟨h.1, h.2.1, h.2.2.1⟩

theorem buildCfg_noEdges (nodes : List Node) (p : Option (List (W String))) (g : Cfg)
    (h : buildCfg nodes p = .ok g) : ∀ i, (g.get i).nexts = [] ∧ (g.get i).prevs = [] := by
  intro i
  by_cases hi : i < g.nodes.size
  · exact buildCfg_pushed (Q := fun c => c.nexts = [] ∧ c.prevs = []) nodes p g
      (fun _ _ c hc => by cases hc <;> exact ⟨rfl, rfl⟩) h i hi
  · rw [Cfg.get_oob _ i hi]; exact ⟨rfl, rfl⟩

theorem Except.bind_eq_ok {ε α β} (x : Except ε α) (f : α → Except ε β) (b : β) :
    (x >>= f) = .ok b ↔ ∃ a, x = .ok a ∧ f a = .ok b := by
  cases x <;> simp [bind, Except.bind]

theorem Except.bind_eq_error {ε α β} (x : Except ε α) (f : α → Except ε β) (e : ε) :
    (x >>= f) = .error e ↔ x = .error e ∨ ∃ a, x = .ok a ∧ f a = .error e := by
  cases x <;> simp [bind, Except.bind]

theorem liftCfg_eq_ok {α} (x : Except CfgErr α) (a : α) : liftCfg x = .ok a ↔ x = .ok a := by
  cases x <;> simp [liftCfg]

theorem liftCfg_eq_error {α} (x : Except CfgErr α) (pe : PipeErr) :
    liftCfg x = .error pe ↔ ∃ e, x = .error e ∧ pe = .cfg e := by
  cases x <;> simp [liftCfg, eq_comm]

theorem runAvail_eq_ok (stage : String) (g g' : Cfg) : runAvail stage g = .ok g' ↔ available g = (g', true) := by
  unfold runAvail
  split <;> rename_i h <;> simp [h]

theorem runAvail_eq_error (stage : String) (g : Cfg) (pe : PipeErr) :
    runAvail stage g = .error pe ↔ (available g).2 = false ∧ pe = .hang stage := by
  unfold runAvail
  split <;> rename_i h <;> simp [h, eq_comm]

theorem pipeline_wired (desc : Bool) (nodes : List Node) (g : Cfg) (h : genFullCfg desc nodes = .ok g) :
    ∃ p g0 g1, buildCfg nodes p = .ok g0 ∧ directions g0 = .ok g1 ∧ Wired g1 g := by
  simp only [genFullCfg, Except.bind_eq_ok, liftCfg_eq_ok, runAvail_eq_ok] at h
  -- the first six components are stage 1 (the handler names); then: built, directions, dead code +
  -- value analysis (g3), ecall termination + markup (g5), value analysis (g6), ecall termination + liveness
  obtain ⟨_, _, _, _, _, _, g0, e0, g1, e1, g3, e3, g5, e5, g6, e6, h⟩ := h
  refine ⟨_, g0, g1, e0, e1, ?_⟩
  have no0 := buildCfg_noEdges _ _ g0 e0
  have w1 : Wired g1 g1 := ⟨directions_symm g0 g1 (symm_of_no_edges g0 no0) e1,
    directions_rnn g0 g1 (fun i _ => (no0 i).1) e1, Kinds.refl g1⟩
  have w3 : Wired g1 g3 := by
    have := (w1.pruned (deadCode_pruned g1)).same (available_edges _); rwa [e3] at this
  have w5 : Wired g1 g5 := (w3.pruned (ecallTerm_pruned g3)).markup desc e5
  have w6 : Wired g1 g6 := by have := w5.same (available_edges _); rwa [e6] at this
  have w8 := (w6.pruned (ecallTerm_pruned g6)).same (liveness_edges _)
  split at h
  · rename_i g8 hl
    injection h with h
    rwa [hl, h] at w8
  · exact absurd h (by simp [throw, throwThe, MonadExceptOf.throw])

/-- **C03 (`pipeline_symm`).** For every program for which the full pipeline succeeds, the
    finished graph's successor and predecessor relations are exact inverses. -/
theorem pipeline_symm (desc : Bool) (nodes : List Node) (g : Cfg)
    (h : genFullCfg desc nodes = .ok g) : Symm g := by
  obtain ⟨_, _, _, _, _, w⟩ := pipeline_wired desc nodes g h
  exact w.symm

end Rva
