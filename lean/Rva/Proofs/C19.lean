/-
  C19 — the debug dump is a faithful serialization.

  `AVal.encode`: the serde representation of `AvailableValue` = the variant's tag (taken from the
  *generated* table of `#[serde(rename)]` attributes) plus the payload fields. Two different
  values never get the same representation, because the tags are pairwise distinct
  (`tags_distinct`; for the table as a whole, `value_tags_nodup` in Proofs/Tables). Before the
  repair `Constant` and `ValueInCsr` both had the tag "c"; their payloads are both bare numbers in
  the dump, which is what `old_tags_collide` shows (the `Field` type here tells `int` from `nat`,
  so `AVal.encode` itself would still tell them apart). Likewise for `MemoryLocation` keys
  ("so±n", "csr+n", "csro+n+k").
-/
import Rva.Model.Cfg
namespace Rva

def tagOf (variant : String) : String :=
  ((Gen.valueTags.find? (·.1 == variant)).map (·.2.1)).getD "?"

inductive Field where
  | int (i : Int)
  | nat (n : Nat)
  | str (s : String)
  deriving DecidableEq

def AVal.encode : AVal → String × List Field
  | .const c => (tagOf "Constant", [.int c.toInt])
  | .addr l => (tagOf "Address", [.str l])
  | .mem l o => (tagOf "Memory", [.str l, .int o.toInt])
  | .rs r o => (tagOf "RegisterWithScalar", [.nat r, .int o.toInt])
  | .ors r o => (tagOf "OriginalRegisterWithScalar", [.nat r, .int o.toInt])
  | .mr r o => (tagOf "MemoryAtRegister", [.nat r, .int o.toInt])
  | .omr r o => (tagOf "MemoryAtOriginalRegister", [.nat r, .int o.toInt])
  | .vcsr c => (tagOf "ValueInCsr", [.nat c])
  | .mcsr c o => (tagOf "MemoryAtCsr", [.nat c, .int o.toInt])

def variants : List String :=
  ["Constant", "Address", "Memory", "RegisterWithScalar", "OriginalRegisterWithScalar",
   "MemoryAtRegister", "MemoryAtOriginalRegister", "ValueInCsr", "MemoryAtCsr"]

theorem tags_distinct : ∀ v ∈ variants, ∀ w ∈ variants, v ≠ w → tagOf v ≠ tagOf w := by decide +kernel

/-- **C19.** Different values have different dumps. -/
theorem encode_injective (a b : AVal) (h : a.encode = b.encode) : a = b := by
  cases a <;> cases b <;> simp only [AVal.encode, Prod.mk.injEq, List.cons.injEq, Field.int.injEq,
    Field.nat.injEq, Field.str.injEq, and_true, true_and, BitVec.toInt_inj] at h
  -- different variants: the tags differ; the same variant: the payload gives the arguments back
  all_goals first
    | exact absurd h.1 (tags_distinct _ (by decide) _ (by decide) (by decide))
    | simp only [h]

/-- With the tags as they were before the repair, the dump of a constant and of a CSR value - tag
    and a bare number - coincide. -/
theorem old_tags_collide :
    let oldTag : String → String := fun v => if v == "ValueInCsr" then "c" else tagOf v
    (oldTag "Constant", [Field.int 64]) = (oldTag "ValueInCsr", [Field.int 64]) := by decide +kernel

/-- the string key of a `MemoryLocation`, as its parts: prefix, sign, magnitude(s) -/
def MemLoc.encode : MemLoc → String × List Field
  | .stack o => ("so", [.str (if o.toInt < 0 then "-" else "+"), .nat o.toInt.natAbs])
  | .csr c => ("csr+", [.nat c])
  | .csro c o => ("csro+", [.nat c, .int o.toInt])

theorem memloc_encode_injective (a b : MemLoc) (h : a.encode = b.encode) : a = b := by
  cases a <;> cases b <;> simp [MemLoc.encode, BitVec.toInt_inj] at h
  · -- sign and magnitude give the offset back
    rename_i x y
    congr
    apply BitVec.eq_of_toInt_eq
    by_cases hx : x.toInt < 0 <;> by_cases hy : y.toInt < 0 <;> simp [hx, hy] at h <;> omega
  · rw [h]
  · rw [h.1, h.2]

end Rva
