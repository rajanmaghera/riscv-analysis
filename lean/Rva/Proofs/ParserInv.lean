/-
  The statement parser as a computation in `P`: what the primitives of `AnnotatedLexer` do to the
  state (`runP_*`), and what `parseInst` / `parseDirective` / `parseNode` are made of (`Built`,
  `Stmt`). That is shown by one walk through their code; a property of the statement parser is then
  an induction over `Built` or `Stmt`.
-/
import Rva.Model.Parser
namespace Rva

def runP {α} (m : P α) (s : PState) : Except LexErr α × PState := (ExceptT.run m).run s

/-- what `get_any` does to the accumulated raw token -/
def rawStep (raw : RawTok) (it : PItem) : RawTok :=
  match it with
  | .tok t =>
    if raw == RawTok.default then t.raw
    else ⟨raw.text ++ " " ++ t.text, ⟨raw.range.start, t.range.stop⟩, raw.file⟩
  | _ => raw

theorem runP_pure {α} (a : α) (s : PState) : runP (pure a : P α) s = (.ok a, s) := rfl

theorem runP_throw {α} (e : LexErr) (s : PState) : runP (throw e : P α) s = (.error e, s) := rfl

theorem runP_bind {α β} (m : P α) (f : α → P β) (s : PState) :
    runP (m >>= f) s = match runP m s with
      | (.ok a, s') => runP (f a) s'
      | (.error e, s') => (.error e, s') := by
  simp only [runP, ExceptT.run_bind, StateT.run_bind]
  rcases (ExceptT.run m).run s with ⟨_ | _, _⟩ <;> rfl

theorem runP_get (s : PState) : runP (get : P PState) s = (.ok s, s) := rfl

theorem runP_rawNow (s : PState) : runP rawNow s = (.ok s.raw, s) := rfl

theorem runP_liftE {α} (e : Except LexErr α) (s : PState) : runP (liftE e) s = (e, s) := by
  cases e <;> rfl

theorem runP_getAny (s : PState) : runP getAny s = match s.items with
    | [] => (.error .unexpectedEOF, s)
    | .tok t :: rest => (.ok t, { items := rest, raw := rawStep s.raw (.tok t) })
    | .strErr t k p :: rest => (.error (.invalidString t k p), { s with items := rest })
    | .unexpected t :: rest => (.error (.unexpectedToken t), { s with items := rest }) := by
  obtain ⟨items, raw⟩ := s
  rcases items with _ | ⟨_ | _ | _, _⟩ <;> rfl

theorem runP_peekAny (s : PState) : runP peekAny s = (match s.items with
    | [] => .error .unexpectedEOF
    | .tok t :: _ => .ok t
    | .strErr t k p :: _ => .error (.invalidString t k p)
    | .unexpected t :: _ => .error (.unexpectedToken t), s) := by
  obtain ⟨items, raw⟩ := s
  rcases items with _ | ⟨_ | _ | _, _⟩ <;> rfl

theorem runP_dropBad (s : PState) : runP dropBad s = (.ok (), match s.items with
    | .strErr .. :: rest => { s with items := rest }
    | .unexpected .. :: rest => { s with items := rest }
    | _ => s) := rfl

/-- what the `Token::as_*` conversions have in common -/
def Conv {α} (as : FTok → Except LexErr (W α)) : Prop :=
  ∀ t, (∃ v, as t = .ok ⟨v, t⟩) ∨ ∃ ex, as t = .error (.expected ex t)

theorem asReg_conv : Conv FTok.asReg := fun t => by
  unfold FTok.asReg; split <;> (try split) <;> simp

theorem asImm_conv : Conv FTok.asImm := fun t => by
  unfold FTok.asImm; split <;> simp

theorem asLabel_conv : Conv FTok.asLabel := fun t => by
  unfold FTok.asLabel; split <;> (try split) <;> simp

theorem asCsrImm_conv : Conv FTok.asCsrImm := fun t => by
  unfold FTok.asCsrImm; split <;> (try split) <;> simp

theorem asString_conv : Conv FTok.asString := fun t => by
  unfold FTok.asString; split <;> simp

theorem Conv.tok {α} {as : FTok → Except LexErr (W α)} (hc : Conv as) {t : FTok} {w : W α}
    (h : as t = .ok w) : w.tok = t := by
  rcases hc t with ⟨_, h'⟩ | ⟨_, h'⟩ <;> rw [h'] at h <;> cases h
  rfl

def parseNodeK (m : FTok) : P Node :=
  match m.kind with
  | .symbol =>
    match instFromStr m.payload with
    | some v => parseInst m v
    | none => throw (.expected ["INSTRUCTION"] m)
  | .label =>
    match labelFromStr m.payload with
    | some l => do pure (.label ⟨l, m⟩ (← rawNow))
    | none => throw (.expected ["LABEL"] m)
  | .directive =>
    match directiveFromStr m.payload with
    | some d => parseDirective m d
    | none => throw (.unknownDirective m)
  | .newline => throw (.isNewline m)
  | .lparen | .rparen | .string | .char => throw (.unexpectedToken m)
  | .comment => throw .ignoredWithoutWarning

-- the tactic: the term `rfl` is slower to check (the two sides use different copies of the same matchers)
theorem parseNode_eq : parseNode = getAny >>= parseNodeK := by rfl

/-- the token a parser error carries (the location of the reported parse error) -/
def LexErr.toks : LexErr → List FTok
  | .expected _ t | .isNewline t | .ignoredWithWarning t | .unexpectedToken t | .unexpectedError t
  | .unknownDirective t | .unsupportedDirective t | .invalidString t _ _ => [t]
  | .ignoredWithoutWarning | .unexpectedEOF | .needTwoNodes _ _ => []

theorem parseStep_eq (items : List PItem) :
    parseStep items = ((runP parseNode { items := items }).1, (runP parseNode { items := items }).2.items) := rfl

theorem parseStep_nil : parseStep [] = (.error .unexpectedEOF, []) := rfl

theorem parseStep_tok (t : FTok) (rest : List PItem) :
    parseStep (.tok t :: rest) =
      ((runP (parseNodeK t) { items := rest, raw := t.raw }).1,
       (runP (parseNodeK t) { items := rest, raw := t.raw }).2.items) := by
  rw [parseStep_eq, parseNode_eq, runP_bind, runP_getAny]; rfl

theorem parseStep_newline (t : FTok) (rest : List PItem) (h : t.kind = .newline) :
    parseStep (.tok t :: rest) = (.error (.isNewline t), rest) := by
  simp only [parseStep_tok, parseNodeK, h, runP_throw]

theorem parseStep_comment (t : FTok) (rest : List PItem) (h : t.kind = .comment) :
    parseStep (.tok t :: rest) = (.error .ignoredWithoutWarning, rest) := by
  simp only [parseStep_tok, parseNodeK, h, runP_throw]

theorem parseStep_label (t : FTok) (l : String) (rest : List PItem) (h : t.kind = .label)
    (hl : labelFromStr t.payload = some l) :
    parseStep (.tok t :: rest) = (.ok (.label ⟨l, t⟩ t.raw), rest) := by
  simp only [parseStep_tok, parseNodeK, h, hl, runP_bind, runP_rawNow, runP_pure]

/-- the directives whose statement reads on across lines -/
def loopDirectives : List String := ["Byte", "Double", "Dword", "Float", "Word", "Half", "Macro"]

/-- the tokens the operands of an instruction or label node carry (none for the other nodes) -/
def Node.opToks : Node → List FTok
  | .arith i rd rs1 rs2 _ => [i.tok, rd.tok, rs1.tok, rs2.tok]
  | .iarith i rd rs1 imm _ => [i.tok, rd.tok, rs1.tok, imm.tok]
  | .jumpLink i rd name _ => [i.tok, rd.tok, name.tok]
  | .jumpLinkR i rd rs1 imm _ => [i.tok, rd.tok, rs1.tok, imm.tok]
  | .basic i _ => [i.tok]
  | .branch i rs1 rs2 name _ => [i.tok, rs1.tok, rs2.tok, name.tok]
  | .store i rs1 rs2 imm _ => [i.tok, rs1.tok, rs2.tok, imm.tok]
  | .load i rd rs1 imm _ => [i.tok, rd.tok, rs1.tok, imm.tok]
  | .loadAddr i rd name _ => [i.tok, rd.tok, name.tok]
  | .csr i rd c rs1 _ => [i.tok, rd.tok, c.tok, rs1.tok]
  | .csri i rd c imm _ => [i.tok, rd.tok, c.tok, imm.tok]
  | .label name _ => [name.tok]
  | _ => []

/-- What the statement parser is made of: the primitives of `AnnotatedLexer`, `pure`, `throw` and
    sequencing. `K` lists the tokens the surrounding code holds and `tk a` those a result `a` adds to
    them: an error and a result are made of held tokens only (the side conditions of `throw` and
    `pure`; the tokens of a result are fresh only at `getAny` / `peekAny`), and `unexpectedEOF` is
    raised by a primitive, never by `throw`. `L` is the licence to look at the state itself (`get`)
    and to skip unreadable items (`dropBad`), which only the loop directives use (the two loops, and
    `parseDirective` for their fuel). The inductions: `Built.good` (C07b; uses `e ≠ unexpectedEOF`),
    `Built.tracked` (C09b; the shape alone), `Built.eh` (C07c; `K` and `tk`), `Built.local` (C15b;
    `L = False`). -/
inductive Built (L : Prop) : {α : Type} → List FTok → (α → List FTok) → P α → Prop
  | pure {α} {K : List FTok} {tk : α → List FTok} {a : α} : tk a ⊆ K → Built L K tk (pure a)
  | throw {α} {K : List FTok} {tk : α → List FTok} {e : LexErr} :
      e ≠ .unexpectedEOF → e.toks ⊆ K → Built L K tk (throw e)
  | bind {α β} {K : List FTok} {tk : α → List FTok} {tk' : β → List FTok} {m : P α} {f : α → P β} :
      Built L K tk m → (∀ a, Built L (tk a ++ K) tk' (f a)) → Built L K tk' (m >>= f)
  | rawNow {K : List FTok} : Built L K (fun _ => []) rawNow
  | getAny {K : List FTok} : Built L K (fun t => [t]) getAny
  | peekAny {K : List FTok} : Built L K (fun t => [t]) peekAny
  | get {K : List FTok} : L → Built L K (fun _ => []) (get : P PState)
  | dropBad {K : List FTok} : L → Built L K (fun _ => []) dropBad

/-- A statement: reads, then an error or a node built around `rawNow`. `Built.pure` takes any value,
    so it cannot tie a node's raw token to the `rawNow` before it; `done` fixes that shape
    (`Stmt.endsRaw`, C09b), and `Stmt.built` forgets it again. -/
inductive Stmt (L : Prop) : List FTok → P Node → Prop
  | throw {K : List FTok} {e : LexErr} : e ≠ .unexpectedEOF → e.toks ⊆ K → Stmt L K (throw e)
  | done {K : List FTok} {g : RawTok → Node} : (∀ raw, (g raw).tok = raw) → (∀ raw, (g raw).opToks ⊆ K) →
      Stmt L K (rawNow >>= fun raw => pure (g raw))
  | bind {α} {K : List FTok} {tk : α → List FTok} {m : P α} {f : α → P Node} :
      Built L K tk m → (∀ a, Stmt L (tk a ++ K) (f a)) → Stmt L K (m >>= f)

theorem Stmt.built {L : Prop} {K : List FTok} {m : P Node} (h : Stmt L K m) : Built L K Node.opToks m := by
  induction h with
  | throw he ht => exact .throw he ht
  | done _ ho => exact .bind .rawNow fun raw => .pure (ho raw)
  | bind hm _ ih => exact .bind hm ih

namespace Built
variable {L : Prop} {K : List FTok}

theorem getAs {α} {as : FTok → Except LexErr (W α)} (hc : Conv as) :
    Built L K (fun w => [w.tok]) (Rva.getAny >>= fun t => liftE (as t)) :=
  .bind .getAny fun t => by
    rcases hc t with ⟨_, h⟩ | ⟨_, h⟩ <;> rw [h]
    · exact .pure (List.subset_append_left _ _)
    · exact .throw nofun (List.subset_append_left _ _)

theorem getReg : Built L K (fun w => [w.tok]) getReg := getAs asReg_conv
theorem getImm : Built L K (fun w => [w.tok]) getImm := getAs asImm_conv
theorem getLabel : Built L K (fun w => [w.tok]) getLabel := getAs asLabel_conv
theorem getCsrImm : Built L K (fun w => [w.tok]) getCsrImm := getAs asCsrImm_conv
theorem getString : Built L K (fun w => [w.tok]) getString := getAs asString_conv

theorem expectRParen : Built L K (fun _ => []) expectRParen :=
  .bind .getAny fun t => by
    split
    · exact .pure (List.nil_subset _)
    · exact .throw nofun (List.subset_append_left _ _)

end Built

section walk
attribute [local irreducible] getReg getImm getLabel getCsrImm getString getAny peekAny expectRParen rawNow
  dropBad ExceptT.bind ExceptT.pure ExceptT.mk

/-- The side condition of a leaf: the token of the error thrown, or every operand token of the node
    built, is among the tokens held. A value converted from a held token carries that token
    (`Conv.tok`; the `cases` writes it in the token's place), so every token looked for stands in
    the list literally. -/
macro "toks_held" : tactic => `(tactic|
  (try cases asReg_conv.tok ‹_›
   try cases asImm_conv.tok ‹_›
   try cases asLabel_conv.tok ‹_›
   simp only [Node.opToks, LexErr.toks, wi, x0, x1, imm0, List.cons_append, List.nil_append, List.cons_subset,
     List.mem_cons, true_or, or_true, and_self, List.nil_subset, implies_true]))

/-- One step of the walk through a `do` block. The primitives and the operations of the monad are
    irreducible here, so that a rule that does not apply fails at once instead of unfolding them.
    In the arms of the pseudo-instructions `sub` is a literal, so `pseudoRR sub …`, `pseudoBZ sub …`,
    `pseudoB2 sub …` evaluate and the node built shows. The leaves are applied and then given their
    arguments: in a term `Stmt.done (fun _ => rfl) ?_` the `rfl` is elaborated at every goal the
    rule is tried on. `Stmt.done` stands before `Stmt.bind` because a `done` goal is a sequencing too. -/
macro "built_step" : tactic => `(tactic| first
  | intro _
  | (apply Stmt.done
     · exact fun _ => rfl
     · toks_held)
  | apply Stmt.bind
  | apply Built.bind
  | exact .getReg | exact .getImm | exact .getLabel | exact .getCsrImm | exact .getAny | exact .peekAny
  | exact .expectRParen | exact .rawNow | exact .getString
  | (apply Stmt.throw
     · exact nofun
     · toks_held)
  | exact .pure (List.nil_subset _)
  | split)

theorem parseInst_stmt {L : Prop} (m : FTok) (v : String) : Stmt L [m] (parseInst m v) := by
  unfold parseInst pseudoBranch
  repeat' built_step

theorem dataLoop_built {L : Prop} (l : L) (fuel : Nat) :
    ∀ acc K, Built L K (fun _ => []) (dataLoop fuel acc) := by
  induction fuel with
  | zero => exact fun acc K => .pure (List.nil_subset _)
  | succ n ih =>
    intro acc K
    unfold dataLoop
    repeat' first | exact ih _ _ | exact .get l | built_step

theorem macroLoop_built {L : Prop} (l : L) (fuel : Nat) : ∀ K, Built L K (fun _ => []) (macroLoop fuel) := by
  induction fuel with
  | zero => exact fun K => .pure (List.nil_subset _)
  | succ n ih =>
    intro K
    unfold macroLoop
    repeat' first | exact ih _ | exact .get l | exact .dropBad l | built_step

attribute [local irreducible] dataLoop macroLoop in
theorem parseDirective_stmt {L : Prop} (m : FTok) (d : String) (hl : d ∈ loopDirectives → L) :
    Stmt L [m] (parseDirective m d) := by
  unfold parseDirective
  repeat' first
    | built_step
    | exact .get (hl (by simp [loopDirectives]))
    | exact dataLoop_built (hl (by simp [loopDirectives])) _ _ _
    | exact macroLoop_built (hl (by simp [loopDirectives])) _ _

end walk

/-- a statement is an instruction, a label, a directive, or an error on its first token -/
theorem parseNodeK_stmt {L : Prop} (m : FTok) (hl : ∀ d, m.kind = .directive →
    directiveFromStr m.payload = some d → d ∈ loopDirectives → L) : Stmt L [m] (parseNodeK m) := by
  unfold parseNodeK
  split
  · split
    · exact parseInst_stmt m _
    · exact .throw nofun (List.Subset.refl _)
  · split
    · exact .done (fun _ => rfl) fun _ => List.Subset.refl _
    · exact .throw nofun (List.Subset.refl _)
  · split
    · exact parseDirective_stmt m _ (hl _ ‹_› ‹_›)
    · exact .throw nofun (List.Subset.refl _)
  all_goals first | exact .throw nofun (List.Subset.refl _) | exact .throw nofun (List.nil_subset _)

theorem parseNode_stmt : Stmt True [] parseNode :=
  parseNode_eq ▸ .bind .getAny fun m => parseNodeK_stmt m fun _ _ _ _ => trivial

end Rva
